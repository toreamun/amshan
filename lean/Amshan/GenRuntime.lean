/-
  Run-time support of the MECHANICALLY TRANSLATED code (Amshan/GeneratedCode*.lean, harness/pytrans.py): the two loop
  combinators that a Python `for` loop with `break` / `continue` / `return` (or an exception that leaves the loop)
  is translated to.  Hand-written, generic, and part of the meaning of the translation (like `List.foldl` for the
  loops without an early exit).

  * `Step σ ρ`: how one iteration of a loop body ends — `next s` (the end of the body, or `continue`: go on with
    the state `s`), `brk s` (`break`), `ret r` (the enclosing FUNCTION answers `r`: a `return`, or an exception
    that nothing in the function catches).
  * `forLoop l s body k`: `for x in l: body`, from the state `s`; `k` is what follows the loop (it gets the state
    with which the loop ended, by exhaustion or by `break`).
  * `forLoopMut l s body k`: the same for a loop over a list of OBJECTS that the body changes in place
    (`reader.read(data)`): an iteration also answers the new value of its item, and `k` gets the list after the
    loop (the items visited so far as they are now, then the ones not visited).
-/
namespace Amshan.GenRt

universe u v w

inductive Step (σ : Type u) (ρ : Type v) where
  | next (s : σ)
  | brk (s : σ)
  | ret (r : ρ)

def forLoop {α : Type w} {σ : Type u} {ρ : Type v} (l : List α) (s : σ) (body : σ → α → Step σ ρ) (k : σ → ρ) : ρ :=
  match l with
  | [] => k s
  | x :: xs =>
    match body s x with
    | .next s' => forLoop xs s' body k
    | .brk s' => k s'
    | .ret r => r

/-- `done`: the items already visited (as the body left them), in order -/
def forLoopMut.go {α : Type w} {σ : Type u} {ρ : Type v} (body : σ → α → α × Step σ ρ) (k : List α → σ → ρ) :
    List α → List α → σ → ρ
  | done, [], s => k done s
  | done, x :: xs, s =>
    match body s x with
    | (x', .next s') => forLoopMut.go body k (done ++ [x']) xs s'
    | (x', .brk s') => k (done ++ x' :: xs) s'
    | (_, .ret r) => r

def forLoopMut {α : Type w} {σ : Type u} {ρ : Type v} (l : List α) (s : σ) (body : σ → α → α × Step σ ρ)
    (k : List α → σ → ρ) : ρ :=
  forLoopMut.go body k [] l s

/-! ### byte strings: `find` and slices with bounds that may be negative

  `x.find(v)` answers an int that may be negative (-1: not found); the translation keeps such values as Lean `Int`
  (arithmetic and comparisons on them are those of `Int`), and slices with such a bound follow Python: a negative
  bound counts from the end, every bound is clamped to `0 .. len`. -/

/-- `l.find(v)` for a byte string `l` and an octet `v`: the position of the first `v`, -1 when there is none -/
def find (l : List Nat) (v : Nat) : Int :=
  if l.idxOf v < l.length then Int.ofNat (l.idxOf v) else -1

/-- `l.find(v, start)` for `start ≥ 0`: the position of the first `v` at or after `start`, -1 when there is none -/
def findFrom (l : List Nat) (v : Nat) (start : Nat) : Int :=
  if (l.drop start).idxOf v < (l.drop start).length then Int.ofNat (start + (l.drop start).idxOf v) else -1

/-- a slice bound `i` of a sequence of `n` items, as a position `0 .. n` -/
def sliceBound (n : Nat) (i : Int) : Nat :=
  if i < 0 then n - i.natAbs else min i.toNat n

/-- `l[i:]` -/
def sliceFrom {α : Type w} (l : List α) (i : Int) : List α :=
  l.drop (sliceBound l.length i)

/-- `l[i:j]` -/
def slice {α : Type w} (l : List α) (i j : Int) : List α :=
  (l.take (sliceBound l.length j)).drop (sliceBound l.length i)

/-! what Python answers on small inputs (checked by the kernel) -/
example : find [1, 126, 3, 126] 126 = 1 := by decide
example : find [1, 2] 126 = -1 := by decide
example : find [] 0 = -1 := by decide
example : findFrom [10, 1, 10, 2] 10 1 = 2 := by decide
example : findFrom [10, 1, 10, 2] 10 0 = 0 := by decide
example : findFrom [10, 1] 10 1 = -1 := by decide
example : findFrom [10, 1] 10 5 = -1 := by decide
example : sliceFrom [1, 2, 3, 4] (-1) = [4] := by decide
example : sliceFrom [1, 2, 3, 4] (-9) = [1, 2, 3, 4] := by decide
example : sliceFrom [1, 2, 3, 4] 9 = [] := by decide
example : sliceFrom [1, 2, 3, 4] 2 = [3, 4] := by decide
example : slice [1, 2, 3, 4] 1 3 = [2, 3] := by decide
example : slice [1, 2, 3, 4] (-3) (-1) = [2, 3] := by decide
example : slice [1, 2, 3, 4] 2 0 = [] := by decide
example : slice [1, 2, 3, 4] 0 9 = [1, 2, 3, 4] := by decide
example : slice [1, 2, 3, 4] (-9) 2 = [1, 2] := by decide

/-- `bs.decode("ascii")` for a byte string of 7-bit octets: the code points are the octets.  (Python raises
    UnicodeDecodeError otherwise; the translation is total, the theorems state the guard `isascii()`.) -/
def decodeAscii (bs : List Nat) : List Nat := bs

theorem find_of_mem {l : List Nat} {v : Nat} (h : v ∈ l) : find l v = Int.ofNat (l.idxOf v) := by
  unfold find; rw [if_pos (List.idxOf_lt_length_of_mem h)]

theorem find_of_not_mem {l : List Nat} {v : Nat} (h : v ∉ l) : find l v = -1 := by
  unfold find
  have : l.idxOf v = l.length := List.idxOf_eq_length h
  rw [if_neg (by omega)]

theorem find_eq_findFrom (l : List Nat) (v : Nat) : find l v = findFrom l v 0 := by
  simp [find, findFrom]

theorem idxOf_eq_length_takeWhile (l : List Nat) (v : Nat) : l.idxOf v = (l.takeWhile (fun x => x != v)).length := by
  induction l with
  | nil => rfl
  | cons a t ih =>
    by_cases hav : a = v
    · subst hav; simp
    · have hb : (a == v) = false := by simp [hav]
      simp [List.idxOf_cons, hav, hb, ih]

theorem findFrom_eq_takeWhile (l : List Nat) (v start : Nat) :
    findFrom l v start =
      if v ∈ l.drop start then Int.ofNat (start + ((l.drop start).takeWhile (fun x => x != v)).length) else -1 := by
  unfold findFrom
  by_cases h : v ∈ l.drop start
  · rw [if_pos (List.idxOf_lt_length_of_mem h), if_pos h, idxOf_eq_length_takeWhile]
  · rw [if_neg h, if_neg (by rw [List.idxOf_eq_length h]; omega)]

theorem find_eq_takeWhile (l : List Nat) (v : Nat) :
    find l v = if v ∈ l then Int.ofNat (l.takeWhile (fun x => x != v)).length else -1 := by
  simpa [find_eq_findFrom] using findFrom_eq_takeWhile l v 0

theorem find_ge (l : List Nat) (v : Nat) : -1 ≤ find l v := by
  unfold find; split <;> simp <;> omega

theorem find_lt_length (l : List Nat) (v : Nat) : find l v < Int.ofNat l.length := by
  unfold find; split
  · simp; omega
  · simp; omega

theorem drop_takeWhile_length {α : Type w} (p : α → Bool) (l : List α) :
    l.drop (l.takeWhile p).length = l.dropWhile p := by
  conv => lhs; arg 2; rw [← List.takeWhile_append_dropWhile (p := p) (l := l)]
  exact List.drop_left' rfl

theorem mem_iff_dropWhile_ne_nil (l : List Nat) (v : Nat) : v ∈ l ↔ l.dropWhile (fun x => x != v) ≠ [] := by
  induction l with
  | nil => simp
  | cons a t ih =>
    by_cases hav : a = v
    · subst hav; simp
    · have hva : v ≠ a := fun e => hav e.symm
      simp [hav, hva, ih]

/-- the answer of `find`, each time with what `trim_buffer_to_flag_or_end` keeps: the suffix from the first `v` on -/
theorem find_cases (l : List Nat) (v : Nat) :
    (find l v = -1 ∧ l.dropWhile (fun x => x != v) = []) ∨
      (∃ n : Nat, find l v = Int.ofNat n ∧ l.dropWhile (fun x => x != v) = l.drop n) := by
  rw [find_eq_takeWhile]
  by_cases h : v ∈ l
  · exact .inr ⟨_, if_pos h, (drop_takeWhile_length _ l).symm⟩
  · exact .inl ⟨if_neg h, Decidable.not_not.mp (mt (mem_iff_dropWhile_ne_nil l v).mpr h)⟩

/-- the answer of `find` with a start position, each time with what the line buffer's `pop` looks at: the octets from
    there on, split at the first `v` -/
theorem findFrom_cases (l : List Nat) (v start : Nat) :
    (findFrom l v start = -1 ∧ v ∉ l.drop start) ∨
      (∃ a r, l.drop start = a ++ v :: r ∧ v ∉ a ∧ findFrom l v start = Int.ofNat (start + a.length)) := by
  by_cases h : v ∈ l.drop start
  · obtain ⟨a, r, hd, ha⟩ := List.eq_append_cons_of_mem h
    refine .inr ⟨a, r, hd, ha, ?_⟩
    have hp : ∀ x ∈ a, (x != v) = true := fun x hx => by simpa using fun (e : x = v) => ha (e ▸ hx)
    rw [findFrom_eq_takeWhile, if_pos h, hd, List.takeWhile_append_of_pos hp, List.takeWhile_cons_of_neg (by simp),
      List.append_nil]
  · exact .inl ⟨by rw [findFrom_eq_takeWhile, if_neg h], h⟩

theorem slice_ofNat {α : Type w} (l : List α) (i j : Nat) : slice l (Int.ofNat i) (Int.ofNat j) = (l.take j).drop i := by
  unfold slice sliceBound
  have hi0 : ¬ Int.ofNat i < 0 := by simp
  have hj0 : ¬ Int.ofNat j < 0 := by simp
  rw [if_neg hi0, if_neg hj0]
  simp only [Int.ofNat_eq_natCast, Int.toNat_natCast]
  have ht : l.take (min j l.length) = l.take j := (List.take_eq_take_min).symm
  rw [ht]
  by_cases hi : i ≤ l.length
  · rw [Nat.min_eq_left hi]
  · rw [Nat.min_eq_right (by omega)]
    rw [List.drop_eq_nil_of_le (by simp; omega), List.drop_eq_nil_of_le (by simp; omega)]

theorem toNat_ofNat (n : Nat) : (Int.ofNat n).toNat = n := rfl

theorem sliceFrom_of_nonneg {α : Type w} (l : List α) (i : Int) (h : 0 ≤ i) : sliceFrom l i = l.drop i.toNat := by
  unfold sliceFrom sliceBound
  rw [if_neg (by omega)]
  by_cases hle : i.toNat ≤ l.length
  · rw [Nat.min_eq_left hle]
  · rw [Nat.min_eq_right (by omega), List.drop_length, List.drop_eq_nil_of_le (by omega)]

/-- the line that `pop` returns, and what stays unread -/
theorem slice_of_drop_eq {α : Type w} {l : List α} {p : Nat} {a r : List α} {x : α} (h : l.drop p = a ++ x :: r) :
    slice l (Int.ofNat p) (Int.ofNat (p + a.length + 1)) = a ++ [x] ∧ l.drop (p + a.length + 1) = r := by
  constructor
  · rw [slice_ofNat, List.drop_take, h, Nat.add_assoc, Nat.add_sub_cancel_left, List.take_length_add_append]
    rfl
  · rw [Nat.add_assoc, ← List.drop_drop, h, List.drop_length_add_append]
    rfl
end Amshan.GenRt
