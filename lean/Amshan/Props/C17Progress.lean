import Amshan.Lemmas.ConnMgrProgress
/-
  C17, progress — "keeps reconnecting after every failure and every loss until it is closed".
  Props/C17.lean renders this as safety (`exits_only_when_closing`, `no_deadlock`).  Here it is rendered
  as possibility (no assumption on the scheduler: from every reachable state that is not closing a path
  without close() leads to the next attempt) and as progress under stated fairness (on an infinite run
  without close() a new attempt is eventually made from every point, unless a connection comes up first;
  if every connection eventually dies the attempts never stop).  `attempts s` counts the `attempt` events
  of `s.log`.
-/
namespace Amshan.C17
open Amshan.BackOff Amshan.ConnMgr

variable {md th sl : Nat}

/-- every transition appends to the log, so the attempt count never decreases and a strictly larger
    count means new `attempt` events -/
theorem attempts_monotone (s s' : S) (l : Label) (hs : next s l = some s') :
    attempts s ≤ attempts s' ∧ ∃ evs, s'.log = s.log ++ evs :=
  have ⟨_, he, _⟩ := (next_step hs).log
  ⟨attempts_mono hs, _, he⟩

/-- **C17 (possibility of progress).**  From every reachable state in which close() has not been
    called, connect_loop has not returned and no connection is live, at most 5 transitions — steps of
    the manager's own two tasks, the factory raising, the clock advancing; no close(), no successful
    connect, no loss — lead to a state whose log has one more `attempt` event.  (Nothing is assumed
    about the scheduler or the environment: the path exists.) -/
theorem can_reach_next_attempt (s : S) (h : Reach md th sl s) (hc : s.closing = false)
    (hl : s.lpc ≠ .exited) (hlive : s.live = []) :
    ∃ ls s', runLabels s ls = some s' ∧ ls.length ≤ 5 ∧
      (∀ l ∈ ls, l = .lRun ∨ l = .tRun ∨ l = .factoryFail ∨ ∃ d, l = .tick d) ∧
      attempts s' = attempts s + 1 :=
  path_to_attempt ⟨.inl rfl, .inr (.inl rfl), .inr (.inr (.inl rfl)), fun d => .inr (.inr (.inr ⟨d, rfl⟩))⟩
    5 s h ⟨hc, hl⟩ hlive (rank_lt s)

/-- the same from EVERY reachable state that is not closing: if a connection is live, its loss comes
    first (at most 6 transitions, none of them close()) -/
theorem can_always_reach_next_attempt (s : S) (h : Reach md th sl s) (hc : s.closing = false)
    (hl : s.lpc ≠ .exited) :
    ∃ ls s', runLabels s ls = some s' ∧ ls.length ≤ 6 ∧ (∀ l ∈ ls, l ≠ .close) ∧
      attempts s' = attempts s + 1 := by
  have path := fun s' hr ha hlive =>
    path_to_attempt (md := md) (th := th) (sl := sl) (P := (· ≠ .close)) ⟨nofun, nofun, nofun, fun _ => nofun⟩
      5 s' hr ha hlive (rank_lt s')
  by_cases hlive : s.live = []
  · obtain ⟨ls, s', hrun, hlen, hlabs, hatt⟩ := path s h ⟨hc, hl⟩ hlive
    exact ⟨ls, s', hrun, Nat.le_succ_of_le hlen, hlabs, hatt⟩
  · have hi := reach_inv h
    obtain ⟨c, hlv, hconn⟩ : ∃ c, s.live = [c] ∧ s.conn = some c := hi.live1.resolve_left hlive
    -- the live connection is lost first
    have hst : Step s .lose _ := .lose c hconn (hlv ▸ List.mem_singleton_self c)
    have h1 := step_next hst
    obtain ⟨ls, s', hrun, hlen, hlabs, hatt⟩ :=
      path _ (Reach.step _ _ .lose h h1) (active_step hst nofun ⟨hc, hl⟩) (hi.filter_live hconn)
    exact ⟨.lose :: ls, s', (runLabels_cons h1 ls).trans hrun, Nat.succ_le_succ hlen,
      List.forall_mem_cons.2 ⟨nofun, hlabs⟩, hatt.trans (by simp [attempts])⟩

/-- **C17 (progress under fairness).**  Let `st 0, st 1, …` be an infinite run (`lab i` the transition
    taken at `i`) from a reachable state in which close() has not been called and connect_loop has not
    returned, such that

    * `noClose`     — close() is never called;
    * `loopRuns`    — the scheduler is fair to connect_loop: whenever a step of it is enabled, a step of
                      it is taken at that point or later;
    * `taskRuns`    — likewise for the connect task;
    * `clock`       — timers fire: the clock passes every value;
    * `factoryEnds` — the connection factory terminates: whenever the connect task is inside the
                      factory, the factory returns or raises at that point or later.

    Then for every point `i` of the run there is a point `j ≥ i` with one more `attempt` in the log —
    or one at which a connection is live (the manager has nothing to reconnect while a
    connection is up).  No bound on the factory's duration, on scheduling latency or on tick sizes is
    assumed. -/
theorem fair_run_reconnects (st : Nat → S) (lab : Nat → Label)
    (hstep : ∀ i, next (st i) (lab i) = some (st (i + 1)))
    (h0 : Reach md th sl (st 0)) (hc0 : (st 0).closing = false) (hl0 : (st 0).lpc ≠ .exited)
    (noClose : ∀ i, lab i ≠ .close)
    (loopRuns : ∀ i, (next (st i) .lRun).isSome → ∃ j, i ≤ j ∧ lab j = .lRun)
    (taskRuns : ∀ i, (next (st i) .tRun).isSome → ∃ j, i ≤ j ∧ lab j = .tRun)
    (clock : ∀ i T, ∃ j, i ≤ j ∧ T ≤ (st j).now)
    (factoryEnds : ∀ i, (st i).t = .inFactory → ∃ j, i ≤ j ∧ (lab j = .factoryOk ∨ lab j = .factoryFail))
    (i : Nat) :
    ∃ j, i ≤ j ∧ (attempts (st j) = attempts (st i) + 1 ∨ (st j).live ≠ []) :=
  FairRun.progress ⟨st, lab, hstep, h0, hc0, hl0, noClose, loopRuns, taskRuns, clock, factoryEnds⟩ i

/-- on such a run the manager never returns from connect_loop -/
theorem fair_run_never_exits (st : Nat → S) (lab : Nat → Label)
    (hstep : ∀ i, next (st i) (lab i) = some (st (i + 1)))
    (h0 : Reach md th sl (st 0)) (hc0 : (st 0).closing = false) (hl0 : (st 0).lpc ≠ .exited)
    (noClose : ∀ i, lab i ≠ .close) (i : Nat) :
    Reach md th sl (st i) ∧ (st i).closing = false ∧ (st i).lpc ≠ .exited :=
  run_stays_active st lab hstep h0 ⟨hc0, hl0⟩ noClose i

/-- **C17 (progress under fairness, every connection dies).**  If in addition every live connection is
    eventually lost (`connDies`), the run contains infinitely many connection attempts: the attempt
    count exceeds every bound. -/
theorem fair_run_attempts_unbounded (st : Nat → S) (lab : Nat → Label)
    (hstep : ∀ i, next (st i) (lab i) = some (st (i + 1)))
    (h0 : Reach md th sl (st 0)) (hc0 : (st 0).closing = false) (hl0 : (st 0).lpc ≠ .exited)
    (noClose : ∀ i, lab i ≠ .close)
    (loopRuns : ∀ i, (next (st i) .lRun).isSome → ∃ j, i ≤ j ∧ lab j = .lRun)
    (taskRuns : ∀ i, (next (st i) .tRun).isSome → ∃ j, i ≤ j ∧ lab j = .tRun)
    (clock : ∀ i T, ∃ j, i ≤ j ∧ T ≤ (st j).now)
    (factoryEnds : ∀ i, (st i).t = .inFactory → ∃ j, i ≤ j ∧ (lab j = .factoryOk ∨ lab j = .factoryFail))
    (connDies : ∀ i, (st i).live ≠ [] → ∃ j, i ≤ j ∧ lab j = .lose)
    (N : Nat) : ∃ j, N ≤ attempts (st j) :=
  FairRun.unbounded_attempts ⟨st, lab, hstep, h0, hc0, hl0, noClose, loopRuns, taskRuns, clock, factoryEnds⟩
    connDies N

/-- the possibility theorem applies to the initial state -/
example : ∃ ls s', runLabels (S.init 60 5 5) ls = some s' ∧ ls.length ≤ 5 ∧ attempts s' = 1 := by
  obtain ⟨ls, s', h1, h2, _, h3⟩ := can_reach_next_attempt (md := 60) (th := 5) (sl := 5) (S.init 60 5 5)
    Reach.init rfl (by simp [S.init]) rfl
  exact ⟨ls, s', h1, h2, h3⟩

/-- the fairness assumptions are jointly satisfiable, on a run with infinitely many attempts
    (`cycSt`, `cycLab` in Lemmas/ConnMgrProgress.lean): max_delay 0 (no back-off), the factory always
    raises; from the state after connect_loop's first step the cycle
    `tRun (attempt), factoryFail, lRun, tick 1` repeats for ever. -/
example : ∀ N, ∃ j, N ≤ attempts (cycSt j) := by
  refine fair_run_attempts_unbounded (md := 0) (th := 5) (sl := 5) cycSt cycLab cyc_next
    (Reach.step _ _ .lRun Reach.init rfl) rfl (by simp [cycSt, topLogic, S.init]) ?_ ?_ ?_ ?_ ?_ ?_
  · intro i; unfold cycLab; split <;> simp
  · intro i _; exact ⟨4 * (i / 4 + 1) + 2, by omega, cycLab_add _ 2⟩
  · intro i _; exact ⟨4 * (i / 4 + 1) + 0, by omega, cycLab_add _ 0⟩
  · intro i T; exact ⟨4 * (i + T), by omega, by
      have := (cyc_inv (4 * (i + T))).2.2.2.2.2.2.2.1
      omega⟩
  · intro i _; exact ⟨4 * (i / 4 + 1) + 1, by omega, .inr (cycLab_add _ 1)⟩
  · intro i h; exact absurd (cyc_inv i).2.2.2.1 h

end Amshan.C17
