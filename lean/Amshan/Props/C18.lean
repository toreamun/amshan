import Amshan.Lemmas.BackOff
/-
  C18 — reconnect pacing follows capped exponential back-off and the loss breaker
  (strategy object, breaker and _get_back_off_time; the timing of attempts on the event loop is
  part of the ConnectionManager model, Props/C17).
-/
namespace Amshan.C18
open Amshan.Gen Amshan.BackOff

/-- number of `failure()` calls since the last `reset()` (or since creation) -/
def failuresSinceReset : List Op → Nat
  | [] => 0
  | ops => (ops.reverse.takeWhile (· == Op.failure)).length

theorem failuresSinceReset_eq (ops : List Op) :
    failuresSinceReset ops = leadingFailures ops.reverse := by
  cases ops <;> rfl

/-- pin: a new strategy object reports delay 0 and has the default maximum (observed through the public API of a
    freshly constructed object; the bodies of failure(), reset(), current_delay_sec and _get_back_off_time are
    translated and proved equal to the model in Props/C18Gen.lean) -/
theorem literal_pins : backoffInitDelay = 0 ∧ backoffInitMax = defaultMaxDelay := by decide

/-- **C18 (strategy object).** For every sequence of failure()/reset() calls and every max_delay the
    strategy reports min(2^(n-1), max_delay) after n ≥ 1 failures since the last reset, and 0 after a
    reset (or initially). -/
theorem backoff_value (ops : List Op) (maxDelay : Nat) :
    ((Strategy.new maxDelay).run ops).current =
      (if failuresSinceReset ops = 0 then min 0 maxDelay
       else min (2 ^ (failuresSinceReset ops - 1)) maxDelay) := by
  rw [failuresSinceReset_eq, current_eq_min, run_maxDelay, run_delay _ rfl, pow2pred]
  show _ = if leadingFailures ops.reverse = 0 then min 0 maxDelay else _
  split <;> rfl

/-- a successful connection (reset) restarts the sequence -/
theorem reset_restarts (ops : List Op) (maxDelay : Nat) :
    ((Strategy.new maxDelay).run (ops ++ [Op.reset])).current = 0 := by
  rw [run_snoc, current_eq_min]
  simp [Strategy.apply, Strategy.reset]

/-- the delay never exceeds max_delay and never decreases under failure() -/
theorem capped_and_monotone (s : Strategy) : s.current ≤ s.maxDelay ∧ s.current ≤ s.failure.current := by
  simp only [current_eq_min, Strategy.failure]
  refine ⟨Nat.min_le_right _ _, ?_⟩
  split <;> omega

/-- **C18.** the sleep before an attempt is the larger of the connect-error delay and the breaker
    sleep -/
theorem sleep_time_eq (s : Strategy) (b : Breaker) :
    getBackOffTime s b = max s.current (if b.sleepFlag then b.sleepSec else 0) :=
  getBackOffTime_eq s b

/-- **C18 (breaker).** When `_update_connection_lost_circuit_breaker()` runs twice less than the
    configured threshold apart (connect_loop SEES two losses; times in microseconds), `_get_back_off_time()`
    is at least the configured sleep. -/
theorem breaker_sets (b : Breaker) (t1 t2 : Nat) (h12 : t1 ≤ t2)
    (hwithin : t2 - t1 < b.threshold * 1000000) (s : Strategy) :
    b.sleepSec ≤ getBackOffTime s ((b.update t1).update t2) := by
  have _ := h12
  have h := sleepSec_le_getBackOffTime s ((b.update t1).update t2)
    (by rw [update_update_sleepFlag, decide_eq_true hwithin]; rfl)
  rwa [update_sleepSec, update_sleepSec] at h

/-- …and when the two updates are at least the threshold apart the breaker adds no wait: the time is the
    connect-error delay alone. -/
theorem breaker_clears (b : Breaker) (t1 t2 : Nat) (h12 : t1 ≤ t2)
    (hapart : b.threshold * 1000000 ≤ t2 - t1) (s : Strategy) :
    getBackOffTime s ((b.update t1).update t2) = s.current := by
  rw [getBackOffTime_eq, update_update_sleepFlag, decide_eq_false (Nat.not_lt.2 hapart),
    decide_eq_false (Nat.not_lt.2 h12)]
  exact Nat.max_eq_left (Nat.zero_le _)

example : failuresSinceReset [Op.failure, Op.reset, Op.failure, Op.failure] = 2 := by decide

end Amshan.C18
