import Amshan.Lemmas.KaifaRT
/-
  C08 — Kaifa lists decode to the transmitted values with the documented scaling.
  `hF` is the floating-point fact `round(v·10^-s, s) = correctly rounded v/10^s` for the model's
  exact binary64 arithmetic (Lemmas/FloatBound.lean proves it, through Props/C11Float.lean;
  Props/C08Final.lean instantiates).
-/
namespace Amshan.C08
open Amshan.Gen Amshan.Cosem Amshan.ListSpec

/-- `round(v * 10**-s, s)` equals the double nearest to v / 10^s, for 32-bit registers -/
def ScaledCorrect : Prop :=
  ∀ (v : Nat) (s : Nat), v < 4294967296 → (s = 1 ∨ s = 2 ∨ s = 3) →
    Flt.roundDigits (Flt.mul (Flt.ofInt v) (Flt.tenPowNeg s)) s = Flt.ofRat false v (10 ^ s)

/-- the positional tables and the scaling table of the source are the documented ones (re-checked
    against the regenerated tables) -/
theorem tables_documented :
    (∀ n names, kaifaLayout n = some names → kaifaFieldLists.find? (fun l => l.length == n) = some names) ∧
    kaifaScaling = [("current_l1", -3), ("current_l2", -3), ("current_l3", -3),
                    ("voltage_l1", -1), ("voltage_l2", -1), ("voltage_l3", -1)] :=
  ⟨KaifaRT.layout_find, KaifaRT.kaifaScaling_eq⟩

/-- **C08 (positional lists, bare body).** A documented positional list (`KaifaValuesWF`: one of the
    five layouts, every value of the type its position asks for) decodes to `kaifaValuesExpected`: the
    names of the layout, currents /1000 and voltages /10 as the correctly rounded doubles (given `hF`),
    every other value unchanged, manufacturer 'Kaifa'.  Octets after the list are ignored. -/
theorem kaifa_values_body (hF : ScaledCorrect) (vs : List KVal) (h : KaifaValuesWF vs) (trail : List Nat) :
    Kaifa.decodeBody (encKaifaValues vs ++ trail) = .dict (kaifaValuesExpected none vs) := by
  unfold Kaifa.decodeBody
  rw [KaifaRT.notificationBody_values vs h trail]
  exact congrArg Kaifa.outOf (KaifaRT.normValues_ok hF vs h none)

/-- **C08 (positional lists, frame).** For a header whose date-time is not the null one: the meter
    clock is the APDU date-time unless the list carries its own clock element, which then wins
    (`kaifaValuesExpected` sets the APDU clock first). -/
theorem kaifa_values_frame (hF : ScaledCorrect) (hd : Header) (hh : hd.WF) (hc : hd.clock ≠ .null)
    (vs : List KVal) (h : KaifaValuesWF vs) (trail : List Nat) :
    Kaifa.decodeFrame (encHeader hd ++ encKaifaValues vs ++ trail) =
      .dict (kaifaValuesExpected (some (match hd.clock with
        | .tagged d => expectedDT d | .untagged d => expectedDT d | .null => default)) vs) := by
  rw [List.append_assoc, KaifaRT.decodeFrame_header hd hh, KaifaRT.notificationBody_values vs h trail,
    CosemDT.clockOf_dt hc]
  exact congrArg Kaifa.outOf (KaifaRT.normValues_ok hF vs h (some _))

/-- registers (not texts or clocks) stand under the scaled names -/
def ScaledAreRegisters (es : List (List Nat × KVal)) : Prop :=
  ∀ p ∈ es, (kaifaScaling.lookup (obisName p.1)).isSome → ∃ v, p.2 = .u32 v

/-- **C08 (OBIS-tagged list, body and frame).** At most 127 elements (the field count 2·k is one octet),
    any six-octet OBIS codes with well-formed values, registers under the scaled names: the dictionary
    is keyed by the common field name (or C.D.E), scaled as the positional lists are; in a frame the
    APDU date-time is not used. -/
theorem kaifa_obis_body (hF : ScaledCorrect) (es : List (List Nat × KVal))
    (h : ∀ p ∈ es, Obis6 p.1 ∧ p.2.WF) (hs : ScaledAreRegisters es) (hl : es.length ≤ 127) :
    Kaifa.decodeBody (encKaifaObis es) = .dict (kaifaObisExpected es) := by
  have _ := hl
  unfold Kaifa.decodeBody
  rw [KaifaRT.notificationBody_obis es h]
  exact congrArg Kaifa.outOf (KaifaRT.normObis_ok hF es h hs)

theorem kaifa_obis_frame (hF : ScaledCorrect) (hd : Header) (hh : hd.WF) (es : List (List Nat × KVal))
    (h : ∀ p ∈ es, Obis6 p.1 ∧ p.2.WF) (hs : ScaledAreRegisters es) (hl : es.length ≤ 127) :
    Kaifa.decodeFrame (encHeader hd ++ encKaifaObis es) = .dict (kaifaObisExpected es) := by
  have _ := hl
  rw [KaifaRT.decodeFrame_header hd hh, KaifaRT.notificationBody_obis es h]
  exact congrArg Kaifa.outOf (KaifaRT.normObis_ok hF es h hs)

end Amshan.C08
