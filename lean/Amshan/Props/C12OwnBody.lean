import Amshan.Lemmas.DecOwnBody
import Amshan.Props.C12Own
import Amshan.Props.C08
import Amshan.Props.C09
/-
  C12 (concrete part, bare notification bodies) — a genuine Aidon / Kaifa / Kamstrup notification
  body WITHOUT LLC/APDU header given to a fresh AutoDecoder is decoded by that meter's
  `…_notification_body` decoder (index 4 / 5 / 6): the three frame decoders, the P1 text decoder and
  the earlier body decoders all raise.  The P1 text decoder needs no hypothesis:
  `decode_p1_readout_content` refuses content with an octet below 0x20 other than CR and LF before
  parsing it, and every notification body starts with the array tag 1 or the structure tag 2.  The
  frame decoders need one: `noApduStart p`, octets 9… of `p` do not look like an APDU date-time
  followed by the start of a notification body (otherwise a FRAME decoder takes the body for a
  frame).  Kamstrup lists need in addition a length octet ≥ 2 (otherwise the Kaifa body decoder
  accepts the list) and a first OBIS code with an octet ≥ 0x80 (sufficient for the Kaifa body decoder
  to reject the list, not shown to be necessary).  `noApduStart` and the length octet come with
  counterexamples (a well-formed list that violates only that hypothesis and is decoded by another
  decoder; also run through the real library) and with realistic lists that satisfy all of them.
-/
namespace Amshan.C12
open Amshan.Gen Amshan.Cosem Amshan.Dec Amshan.ListSpec Amshan.DecOwnBody

/-- **fresh_k.** With nothing remembered, if decoders `0 … k-1` of the table raise exceptions that the
    `except` clause catches and decoder `k` returns `v`, then `decode_message_payload` returns `v` and
    decoder `k` is remembered. -/
theorem fresh_k (p : List Nat) (k : Nat) (d : Auto.Decoder (List Nat) Dict) (v : Dict)
    (hk : decoders[k]? = some d) (hv : d p = .ok v)
    (hrej : ∀ j, j < k → ∀ d', decoders[j]? = some d' → ∃ e, d' p = .error e ∧ caught e = true) :
    stepPayload none p = .ok (some k, some v) :=
  Auto.step_fresh_k decoders caught p k d v hk hv hrej

/-- the same for ANY decoder table and `except` clause -/
theorem fresh_k_generic {α β : Type} (decs : List (Auto.Decoder α β)) (caught : PyExc → Bool)
    (p : α) (k : Nat) (d : Auto.Decoder α β) (v : β) (hk : decs[k]? = some d) (hv : d p = .ok v)
    (hrej : ∀ j, j < k → ∀ d', decs[j]? = some d' → ∃ e, d' p = .error e ∧ caught e = true) :
    Auto.step decs caught none p = .ok (some k, some v) :=
  Auto.step_fresh_k decs caught p k d v hk hv hrej

/-- Aidon_frame, Kaifa_frame and Kamstrup_frame (decoders 0, 1, 2) raise on every payload whose
    octets 9… are not an APDU date-time followed by the start of a notification body -/
theorem frame_decoders_reject (p : List Nat) (h : noApduStart p = true) :
    ∀ j, j < 3 → ∀ d, decoders[j]? = some d → ∃ e, d p = .error e ∧ caught e = true :=
  fun j hj d hd => by
    have hr : Auto.AllRej p (decoders.take 3) := by
      rw [DecTotal.decoders_eq]
      exact ⟨aidon_frame_rej p h, kaifa_frame_rej p h, kamstrup_frame_rej p h, trivial⟩
    obtain ⟨e, he⟩ := hr.of_getElem? (j := j) (by rw [List.getElem?_take_of_lt hj]; exact hd)
    exact ⟨e, he, DecTotal.caught_all e⟩

theorem p1_decoder_of {p : List Nat} (h : ∃ e, P1Parse.decodeContent p = .error e) :
    ∀ d, decoders[3]? = some d → ∃ e, d p = .error e ∧ caught e = true := by
  intro d hd
  rw [DecTotal.decoders_eq] at hd
  cases hd
  obtain ⟨e, he⟩ := h
  exact ⟨e, he, DecTotal.caught_all e⟩

/-- the P1 decoder (decoder 3) raises on every payload with an octet ≥ 0x80, or without '(' or
    without ')' -/
theorem p1_decoder_rejects (p : List Nat) (h : p1Safe p = true) :
    ∀ d, decoders[3]? = some d → ∃ e, d p = .error e ∧ caught e = true :=
  p1_decoder_of (p1_reject p h)

/-- the P1 decoder (decoder 3) raises on every payload with an octet below 0x20 other than CR and
    LF ("Content is not printable characters."), whatever the parser would make of the text -/
theorem p1_decoder_rejects_control (p : List Nat) (h : ∃ c ∈ p, c < 32 ∧ c ≠ 13 ∧ c ≠ 10) :
    ∀ d, decoders[3]? = some d → ∃ e, d p = .error e ∧ caught e = true :=
  p1_decoder_of (p1_reject_control p h)

/-- in particular on every payload that starts with the array tag or the structure tag -/
theorem p1_decoder_rejects_tag (t : Nat) (rest : List Nat) (ht : t = 1 ∨ t = 2) :
    ∀ d, decoders[3]? = some d → ∃ e, d (t :: rest) = .error e ∧ caught e = true :=
  p1_decoder_of (p1_reject_tag rfl ht)

/-- every Aidon notification body (array tag first), unconditionally -/
theorem p1_decoder_rejects_aidon_body (es : List AidonElem) :
    ∀ d, decoders[3]? = some d → ∃ e, d (encAidonBody es) = .error e ∧ caught e = true :=
  p1_decoder_of (p1_reject_tag (DecOwn.encAidonBody_head es) (.inl rfl))

/-- every Kaifa positional list (structure tag first), unconditionally -/
theorem p1_decoder_rejects_kaifa_values (vs : List KVal) :
    ∀ d, decoders[3]? = some d → ∃ e, d (encKaifaValues vs) = .error e ∧ caught e = true :=
  p1_decoder_of (p1_reject_tag (DecOwn.encKaifaValues_head vs) (.inr rfl))

/-- every Kaifa OBIS-tagged list, unconditionally -/
theorem p1_decoder_rejects_kaifa_obis (es : List (List Nat × KVal)) :
    ∀ d, decoders[3]? = some d → ∃ e, d (encKaifaObis es) = .error e ∧ caught e = true :=
  p1_decoder_of (p1_reject_tag (DecOwn.encKaifaObis_head es) (.inr rfl))

/-- every Kamstrup list, unconditionally -/
theorem p1_decoder_rejects_kamstrup (l : KamList) :
    ∀ d, decoders[3]? = some d → ∃ e, d (encKamList l) = .error e ∧ caught e = true :=
  p1_decoder_of (p1_reject_tag (DecOwn.encKamList_head l) (.inr rfl))

def isDict (o : Out) : Bool :=
  match o with
  | .dict _ => true
  | _ => false

def picked (r : Except PyExc (Option Nat × Option Dict)) : Option Nat :=
  match r with
  | .ok (i, some _) => i
  | _ => none

/-- any payload the Aidon body decoder accepts, on a fresh AutoDecoder (such a payload starts with
    the array tag, so the P1 decoder refuses it) -/
theorem own_aidon_payload_fresh (p : List Nat) (hapdu : noApduStart p = true)
    (d : Dict) (hdec : Aidon.decodeBody p = .dict d) : stepPayload none p = .ok (some 4, some d) := by
  exact DecOwn.fresh (pre := [_, _, _, _]) DecTotal.decoders_eq
    (frames_p1_rej p hapdu (aidon_body_dict_head p d hdec) (.inl rfl) trivial)
    (congrArg ofOut hdec)

/-- **C12 (Aidon bare body).** a genuine Aidon notification body with `noApduStart` on a fresh
    AutoDecoder is decoded by Aidon_notification_body, with the dictionary of C07 -/
theorem own_aidon_body_fresh (es : List AidonElem) (h : ∀ e ∈ es, e.WF) (hl : es.length ≤ 255)
    (hapdu : noApduStart (encAidonBody es) = true) :
    stepPayload none (encAidonBody es) = .ok (some 4, some (aidonExpected es)) := by
  exact own_aidon_payload_fresh _ hapdu _ (by simpa using C07.aidon_roundtrip_body es h hl [])

/-- the same with the hypotheses spelled out on the first OBIS code A.B.C.D.E.F of the list:
    F ≥ 128 (every real code has F = 255), C = 9 ⇒ D ≠ 12, C = 0 ⇒ (E ≠ 0 or D ∉ {1, 2}).
    (The Norwegian lists 2 and 3 start with 1.1.0.2.129.255: C = 0, D = 2, E = 129.) -/
theorem own_aidon_body_fresh_obis (e : AidonElem) (rest : List AidonElem) (h : ∀ x ∈ e :: rest, x.WF)
    (hl : (e :: rest).length ≤ 255) (a b c d g f : Nat) (ho : aidonObis e = [a, b, c, d, g, f])
    (hf : 128 ≤ f) (h9 : c = 9 → d ≠ 12) (h0 : c = 0 → g ≠ 0 ∨ (d ≠ 1 ∧ d ≠ 2)) :
    stepPayload none (encAidonBody (e :: rest)) = .ok (some 4, some (aidonExpected (e :: rest))) := by
  refine own_aidon_body_fresh _ h hl ?_
  refine aidon_noApduStart e rest a b c d g f ho h9 (fun _ => Or.inr (by omega)) ?_
  intro hc
  rcases h0 hc with hg | hd
  · exact Or.inr ⟨hg, by omega, by omega⟩
  · exact Or.inl hd

/-- the empty list needs no hypothesis -/
theorem own_aidon_body_empty : stepPayload none (encAidonBody []) = .ok (some 4, some (aidonExpected [])) :=
  own_aidon_body_fresh [] (fun _ h => nomatch h) (by decide +kernel) (by decide +kernel)

instance (e : AidonElem) : Decidable e.WF := by cases e <;> unfold AidonElem.WF <;> infer_instance

/-- `noApduStart` is needed (1): a well-formed list whose first OBIS code is 1.0.0.1.0.255 (C = 0,
    D = 1, E = 0): after eight octets Aidon_frame sees a null date-time and an empty array and
    returns a dictionary with the manufacturer only -/
example : (∀ e ∈ [AidonElem.text [1, 0, 0, 1, 0, 255] [65]], e.WF) ∧
    noApduStart (encAidonBody [.text [1, 0, 0, 1, 0, 255] [65]]) = false ∧
    stepPayload none (encAidonBody [.text [1, 0, 0, 1, 0, 255] [65]]) =
      .ok (some 0, some [("meter_manufacturer", .str [65, 105, 100, 111, 110])]) := by
  decide +kernel

/-- `noApduStart` is needed (2): first OBIS code 1.0.0.2.0.255 (C = 0, D = 2, E = 0): Kaifa_frame sees
    a null date-time and an empty OBIS-tagged structure -/
example : (∀ e ∈ [AidonElem.text [1, 0, 0, 2, 0, 255] [65]], e.WF) ∧
    noApduStart (encAidonBody [.text [1, 0, 0, 2, 0, 255] [65]]) = false ∧
    stepPayload none (encAidonBody [.text [1, 0, 0, 2, 0, 255] [65]]) =
      .ok (some 1, some [("meter_manufacturer", .str [75, 97, 105, 102, 97])]) := by
  decide +kernel

/-- no hypothesis about the text is needed: an all-ASCII list (F = 127) whose last text is "()()".
    The visible-string tag 0x0A is a line feed, so the P1 PARSER would see the line "\x04()()" - one
    data set with two values (`p1Safe` is false for this list); the P1 decoder refuses the control
    octets before parsing, and the list is decoded by Aidon_notification_body. -/
example : (∀ e ∈ [AidonElem.text [1, 1, 0, 2, 1, 127] [40, 41, 40, 41]], e.WF) ∧
    noApduStart (encAidonBody [.text [1, 1, 0, 2, 1, 127] [40, 41, 40, 41]]) = true ∧
    p1Safe (encAidonBody [.text [1, 1, 0, 2, 1, 127] [40, 41, 40, 41]]) = false ∧
    stepPayload none (encAidonBody [.text [1, 1, 0, 2, 1, 127] [40, 41, 40, 41]]) =
      .ok (some 4, some [("meter_manufacturer", .str [65, 105, 100, 111, 110]), ("0.2.1", .str [40, 41, 40, 41])]) := by
  decide +kernel

/-- non-vacuity: the first OBIS codes of the real Aidon lists (list 1: 1.0.1.7.0.255; lists 2 and 3:
    1.1.0.2.129.255; Swedish list: 0.0.1.0.0.255) satisfy the hypotheses of `own_aidon_body_fresh_obis` -/
example : ∀ o ∈ [[1, 0, 1, 7, 0, 255], [1, 1, 0, 2, 129, 255], [0, 0, 1, 0, 0, 255]],
    ∃ a b c d g f, o = [a, b, c, d, g, f] ∧ 128 ≤ f ∧ (c = 9 → d ≠ 12) ∧ (c = 0 → g ≠ 0 ∨ (d ≠ 1 ∧ d ≠ 2)) := by
  intro o ho
  simp only [List.mem_cons, List.not_mem_nil, or_false] at ho
  rcases ho with rfl | rfl | rfl <;> exact ⟨_, _, _, _, _, _, rfl, by decide +kernel, by decide +kernel, by decide +kernel⟩

/-- non-vacuity, concretely: list 1 (active power 280 W) and the start of list 2 -/
example : noApduStart (encAidonBody [.reg [1, 0, 1, 7, 0, 255] .u32 280 0 27]) = true ∧
    noApduStart (encAidonBody [.text [1, 1, 0, 2, 129, 255] [65, 73, 68, 79, 78, 95, 86, 48, 48, 48, 49],
      .reg [1, 0, 1, 7, 0, 255] .u32 280 0 27]) = true := by
  decide +kernel

/-- any payload starting with the structure tag that the Kaifa body decoder accepts, on a fresh
    AutoDecoder (decoder 4, Aidon_notification_body, wants the array tag) -/
theorem own_kaifa_payload_fresh (rest : List Nat) (hapdu : noApduStart (2 :: rest) = true)
    (d : Dict) (hdec : Kaifa.decodeBody (2 :: rest) = .dict d) :
    stepPayload none (2 :: rest) = .ok (some 5, some d) :=
  DecOwn.fresh (pre := [_, _, _, _, _]) DecTotal.decoders_eq
    (frames_p1_rej _ hapdu rfl (.inr rfl) ⟨DecOwn.aidon_body_rej _ (by simp), trivial⟩) (congrArg ofOut hdec)

/-- **C12 (Kaifa positional bare body).** a positional list with `noApduStart` that the Kaifa body
    decoder accepts (`hdec`) goes to Kaifa_notification_body on a fresh AutoDecoder -/
theorem own_kaifa_body_fresh (vs : List KVal) (hapdu : noApduStart (encKaifaValues vs) = true)
    (d : Dict) (hdec : Kaifa.decodeBody (encKaifaValues vs) = .dict d) :
    stepPayload none (encKaifaValues vs) = .ok (some 5, some d) :=
  own_kaifa_payload_fresh _ hapdu d hdec

/-- **C12 (Kaifa positional bare body, documented lists).** with the dictionary of C08 (`hF`: the
    scaled values are correctly rounded, discharged in Props/C08Final).  No hypothesis about the ninth
    octet is needed: a documented list is one register (seven octets) or starts with three printable
    texts and a register, and wherever the ninth octet falls there it is no APDU date-time start
    (`kaifa_values_wf_noApduStart`).  And none about the P1 decoder: the structure tag is a control
    octet.  So this one is unconditional for the documented lists. -/
theorem own_kaifa_body_fresh_wf (hF : C08.ScaledCorrect) (vs : List KVal) (h : KaifaValuesWF vs) :
    stepPayload none (encKaifaValues vs) = .ok (some 5, some (kaifaValuesExpected none vs)) := by
  exact own_kaifa_body_fresh vs (kaifa_values_wf_noApduStart vs h) _ (by simpa using C08.kaifa_values_body hF vs h [])

/-- list 1 (one 32-bit register) -/
theorem own_kaifa_list1_fresh (hF : C08.ScaledCorrect) (v : Nat) (hv : v < 4294967296) :
    stepPayload none (encKaifaValues [.u32 v]) = .ok (some 5, some (kaifaValuesExpected none [.u32 v])) := by
  exact own_kaifa_body_fresh_wf hF _ (kaifaValuesWF_list1 hv)

/-- **C12 (Kaifa OBIS-tagged bare body).** the same for an OBIS-tagged list; below with the dictionary
    of C08 -/
theorem own_kaifa_obis_body_fresh (es : List (List Nat × KVal))
    (hapdu : noApduStart (encKaifaObis es) = true) (d : Dict)
    (hdec : Kaifa.decodeBody (encKaifaObis es) = .dict d) :
    stepPayload none (encKaifaObis es) = .ok (some 5, some d) :=
  own_kaifa_payload_fresh _ hapdu d hdec

theorem own_kaifa_obis_body_fresh_wf (hF : C08.ScaledCorrect) (es : List (List Nat × KVal))
    (h : ∀ p ∈ es, Obis6 p.1 ∧ p.2.WF) (hs : C08.ScaledAreRegisters es) (hl : es.length ≤ 127)
    (hapdu : noApduStart (encKaifaObis es) = true) :
    stepPayload none (encKaifaObis es) = .ok (some 5, some (kaifaObisExpected es)) :=
  own_kaifa_obis_body_fresh es hapdu _ (C08.kaifa_obis_body hF es h hs hl)

instance (v : KVal) : Decidable v.WF := by cases v <;> unfold KVal.WF <;> infer_instance

/-- what the guard of `decode_p1_readout_content` is for: Kaifa list 1 with the (unrealistic, but
    32-bit) register 0x28292829 is the text "\x02\x01\x06()()" (02 01 06 28 29 28 29), which the P1 PARSER
    takes (`p1Safe` is false for it); the guard refuses it and it is decoded by
    Kaifa_notification_body. -/
example : KaifaValuesWF [.u32 0x28292829] ∧ encKaifaValues [.u32 0x28292829] = [2, 1, 6, 40, 41, 40, 41] ∧
    p1Safe [2, 1, 6, 40, 41, 40, 41] = false ∧
    stepPayload none [2, 1, 6, 40, 41, 40, 41] =
      .ok (some 5, some [("meter_manufacturer", .str [75, 97, 105, 102, 97]), ("active_power_import", .int 673785897)]) := by
  exact ⟨kaifaValuesWF_list1 (by decide), by decide +kernel, by decide +kernel,
    own_kaifa_payload_fresh _ (by decide +kernel) _ (by decide +kernel)⟩

/-- `noApduStart` is needed in `own_kaifa_body_fresh`: nine registers the Kaifa body decoder accepts
    (`hdec` holds), the second one 65536 = 00 01 00 00: Aidon_frame sees a null date-time and an empty
    array.  (A documented list cannot do this: `own_kaifa_body_fresh_wf` has no such hypothesis.) -/
example :
    noApduStart (encKaifaValues [.u32 0, .u32 65536, .u32 0, .u32 0, .u32 0, .u32 0, .u32 0, .u32 0, .u32 0]) = false ∧
    isDict (Kaifa.decodeBody (encKaifaValues [.u32 0, .u32 65536, .u32 0, .u32 0, .u32 0, .u32 0, .u32 0, .u32 0, .u32 0])) = true ∧
    picked (stepPayload none (encKaifaValues [.u32 0, .u32 65536, .u32 0, .u32 0, .u32 0, .u32 0, .u32 0, .u32 0, .u32 0])) = some 0 := by
  decide +kernel

/-- `noApduStart` is needed in `own_kaifa_obis_body_fresh`: a well-formed OBIS-tagged list whose first
    code has E = 9, F = 12: the frame decoders read "09 0C 06 00 01 01 00 09 06 00 00 00 00 00" as a
    tagged date-time (1536-01-01 09:06) and Kamstrup_frame accepts what follows -/
example : (∀ p ∈ [([1, 0, 1, 7, 9, 12], KVal.u32 0x00010100), ([0, 0, 0, 0, 0, 2], KVal.u32 0),
      ([1, 1, 1, 7, 0, 255], KVal.u32 5)], Obis6 p.1 ∧ p.2.WF) ∧
    noApduStart (encKaifaObis [([1, 0, 1, 7, 9, 12], .u32 0x00010100), ([0, 0, 0, 0, 0, 2], .u32 0),
      ([1, 1, 1, 7, 0, 255], .u32 5)]) = false ∧
    picked (stepPayload none (encKaifaObis [([1, 0, 1, 7, 9, 12], .u32 0x00010100), ([0, 0, 0, 0, 0, 2], .u32 0),
      ([1, 1, 1, 7, 0, 255], .u32 5)])) = some 2 := by
  decide +kernel

/-- non-vacuity: the real Kaifa list 1 sample (02 01 06 00 00 16 DC), an all-ASCII list 1 (1290 W =
    00 00 05 0A) and the start of list 2 ("KFM_001") satisfy the hypothesis -/
example : noApduStart (encKaifaValues [.u32 0x16DC]) = true ∧
    noApduStart (encKaifaValues [.u32 1290]) = true ∧
    noApduStart (encKaifaValues [.text [75, 70, 77, 95, 48, 48, 49], .text [54, 57], .u32 1290]) = true := by
  decide +kernel

/-- non-vacuity: the first code of the real OBIS-tagged Kaifa list (1.0.0.2.129.255) -/
example : noApduStart (encKaifaObis [([1, 0, 0, 2, 129, 255], .text [75, 70, 77, 95, 48, 48, 49])]) = true := by
  decide +kernel

/-- **C12 (Kamstrup bare body).** a genuine Kamstrup list with `noApduStart` that
    Kamstrup_notification_body accepts (`hdec`; C09) goes to it on a fresh AutoDecoder: besides the frame decoders and P1 (the structure tag is a control
    octet), Aidon_notification_body rejects the structure tag and Kaifa_notification_body rejects
    because the list has at least two fields and its first OBIS code contains an octet ≥ 0x80
    (group F = 255) -/
theorem own_kamstrup_body_fresh (l : KamList) (h : l.WF) (hlen : 2 ≤ l.lenOctet)
    (hfirst : ∃ e rest, l.elems = e :: rest ∧ ∃ b ∈ e.obis, 128 ≤ b)
    (hapdu : noApduStart (encKamList l) = true)
    (d : Dict) (hdec : Kamstrup.decodeBody (encKamList l) = .dict d) :
    stepPayload none (encKamList l) = .ok (some 6, some d) := by
  exact DecOwn.fresh (pre := [_, _, _, _, _, _]) DecTotal.decoders_eq
    (frames_p1_rej _ hapdu (DecOwn.encKamList_head l) (.inr rfl)
      ⟨DecOwn.aidon_body_rej _ (by rw [DecOwn.encKamList_head]; decide), DecOwn.kaifa_body_rej_kam l h hlen hfirst, trivial⟩)
    (congrArg ofOut hdec)

/-- with the dictionary of C09 -/
theorem own_kamstrup_body_fresh_wf (hF : C09.ScaledCorrect) (l : KamList) (h : l.WF) (hlen : 2 ≤ l.lenOctet)
    (hfirst : ∃ e rest, l.elems = e :: rest ∧ ∃ b ∈ e.obis, 128 ≤ b)
    (hapdu : noApduStart (encKamList l) = true) :
    stepPayload none (encKamList l) = .ok (some 6, some (kamExpected l)) :=
  own_kamstrup_body_fresh l h hlen hfirst hapdu _ (C09.kamstrup_body hF l h)

/-- a list-version string of five or more characters ("Kamstrup_V0001") gives `noApduStart` -/
theorem own_kamstrup_body_fresh_version (hF : C09.ScaledCorrect) (l : KamList) (h : l.WF) (hlen : 2 ≤ l.lenOctet)
    (hfirst : ∃ e rest, l.elems = e :: rest ∧ ∃ b ∈ e.obis, 128 ≤ b) (hver : 5 ≤ l.version.length) :
    stepPayload none (encKamList l) = .ok (some 6, some (kamExpected l)) :=
  own_kamstrup_body_fresh_wf hF l h hlen hfirst (kamstrup_noApduStart l h.2.1 hver)

instance (v : KamVal) : Decidable v.WF := by cases v <;> unfold KamVal.WF <;> infer_instance
instance (e : KamElem) : Decidable e.WF := by unfold KamElem.WF; cases e.value <;> infer_instance
instance (l : KamList) : Decidable l.WF := by unfold KamList.WF; infer_instance

/-- `2 ≤ lenOctet` is needed: with length octet 0 the Kaifa body decoder takes the list for an empty
    structure, with length octet 1 for Kaifa list 1 (the "active power" is the version string) -/
example : (KamList.mk 0 [75, 97, 109, 115, 116, 114, 117, 112, 95, 86, 48, 48, 48, 49] 0
      [⟨[1, 1, 0, 0, 5, 255], .text [65], 0⟩]).WF ∧
    noApduStart (encKamList ⟨0, [75, 97, 109, 115, 116, 114, 117, 112, 95, 86, 48, 48, 48, 49], 0,
      [⟨[1, 1, 0, 0, 5, 255], .text [65], 0⟩]⟩) = true ∧
    stepPayload none (encKamList ⟨0, [75, 97, 109, 115, 116, 114, 117, 112, 95, 86, 48, 48, 48, 49], 0,
      [⟨[1, 1, 0, 0, 5, 255], .text [65], 0⟩]⟩) =
      .ok (some 5, some [("meter_manufacturer", .str [75, 97, 105, 102, 97])]) ∧
    stepPayload none (encKamList ⟨1, [75, 97, 109, 115, 116, 114, 117, 112, 95, 86, 48, 48, 48, 49], 0,
      [⟨[1, 1, 0, 0, 5, 255], .text [65], 0⟩]⟩) =
      .ok (some 5, some [("meter_manufacturer", .str [75, 97, 105, 102, 97]),
        ("active_power_import", .str [75, 97, 109, 115, 116, 114, 117, 112, 95, 86, 48, 48, 48, 49])]) := by
  decide +kernel

/-- an all-ASCII Kamstrup list (F = 127, so `hfirst` fails) whose last text is "()()": the P1 decoder
    refuses it (control octets), the Kaifa body decoder happens to refuse it as well (no field list
    of length 3), and Kamstrup_notification_body decodes it: `hfirst` is sufficient for the Kaifa
    body decoder to reject, not necessary. -/
example : (KamList.mk 3 [75, 97, 109, 115, 116, 114, 117, 112, 95, 86, 48, 48, 48, 49] 0
      [⟨[1, 1, 0, 0, 5, 127], .text [40, 41, 40, 41], 0⟩]).WF ∧
    noApduStart (encKamList ⟨3, [75, 97, 109, 115, 116, 114, 117, 112, 95, 86, 48, 48, 48, 49], 0,
      [⟨[1, 1, 0, 0, 5, 127], .text [40, 41, 40, 41], 0⟩]⟩) = true ∧
    stepPayload none (encKamList ⟨3, [75, 97, 109, 115, 116, 114, 117, 112, 95, 86, 48, 48, 48, 49], 0,
      [⟨[1, 1, 0, 0, 5, 127], .text [40, 41, 40, 41], 0⟩]⟩) =
      .ok (some 6, some [("meter_manufacturer", .str [75, 97, 109, 115, 116, 114, 117, 112]),
        ("list_ver_id", .str [75, 97, 109, 115, 116, 114, 117, 112, 95, 86, 48, 48, 48, 49]),
        ("meter_id", .str [40, 41, 40, 41])]) := by
  decide +kernel

/-- `noApduStart` is needed: version string "V1" and first OBIS code 0.1.0.0.5.255: octets 9… are
    00 01 00 and Aidon_frame sees a null date-time and an empty array -/
example : (KamList.mk 3 [86, 49] 0 [⟨[0, 1, 0, 0, 5, 255], .text [65], 0⟩]).WF ∧
    noApduStart (encKamList ⟨3, [86, 49], 0, [⟨[0, 1, 0, 0, 5, 255], .text [65], 0⟩]⟩) = false ∧
    stepPayload none (encKamList ⟨3, [86, 49], 0, [⟨[0, 1, 0, 0, 5, 255], .text [65], 0⟩]⟩) =
      .ok (some 0, some [("meter_manufacturer", .str [65, 105, 100, 111, 110])]) := by
  decide +kernel

/-- non-vacuity: the start of the real Kamstrup lists (length octet 0x19, "Kamstrup_V0001",
    1.1.0.0.5.255 meter id, 1.1.1.7.0.255 active power) satisfies every hypothesis of
    `own_kamstrup_body_fresh_version` -/
example : let l : KamList := ⟨0x19, [75, 97, 109, 115, 116, 114, 117, 112, 95, 86, 48, 48, 48, 49], 0,
      [⟨[1, 1, 0, 0, 5, 255], .text [53, 55, 48, 54, 53, 54, 55, 48], 0⟩, ⟨[1, 1, 1, 7, 0, 255], .u32 1234, 0⟩]⟩
    l.WF ∧ 2 ≤ l.lenOctet ∧ (∃ e rest, l.elems = e :: rest ∧ ∃ b ∈ e.obis, 128 ≤ b) ∧ 5 ≤ l.version.length := by
  exact ⟨by decide +kernel, by decide +kernel, ⟨_, _, rfl, 255, by decide +kernel, by decide +kernel⟩, by decide +kernel⟩

end Amshan.C12
