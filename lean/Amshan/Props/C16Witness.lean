import Amshan.Props.C16Hdlc
import Amshan.Props.C16P1
import Amshan.Props.C02Witness
import Amshan.Props.C05Witness
/-
  C16 — non-vacuity witnesses: noise prefixes of the kinds the property names (a prefix that looks like a
  frame start and ends in an ESCAPE octet, an aborted frame 7D 7E, a truncated REAL frame, a truncated readout)
  followed by the clean streams of Props/C02Witness (REAL frames of tests/test_hdlc.py) and Props/C05Witness.
-/
namespace Amshan.C16.Witness
set_option linter.defProp false
open Amshan.Gen Amshan.Hdlc Amshan.HdlcSpec Amshan.P1 Amshan.P1Spec
open C02.Witness (fKaifa fAidon fEmpty frames split split_flatten)

/-- noise; a frame start A0 27 01 02 01 10 5A 87 E6 (the real header, HCS good) that is aborted by 7D 7E; another
    frame start that ends in a lone escape octet -/
def pre : List Nat :=
  [0x00, 0xFF, 0x7E, 0xA0, 0x27, 0x01, 0x02, 0x01, 0x10, 0x5A, 0x87, 0xE6, 0x7D, 0x7E, 0x7E, 0xA0, 0x27, 0x01, 0x7D]

def hpre : Octets pre := by decide

/-! ### `hdlc_resync_stuffing(_chunked)` : stuffing on, `Octets pre`, well-formed frames with fill ≥ 1, closing ≥ 1 -/

def hfsS : ∀ p ∈ frames, p.1.WF ∧ 1 ≤ p.2 := by decide

example (abort : Bool) : ∃ junk, (run ⟨true, abort⟩ Core.init (pre ++ wire true [] frames 2)).2 =
    junk ++ [expectedFrame fAidon, expectedFrame fEmpty] :=
  hdlc_resync_stuffing ⟨true, abort⟩ rfl pre hpre frames 2 hfsS (by decide)

example (abort : Bool) : ∃ junk, (readAll ⟨true, abort⟩ Reader.init (split (pre ++ wire true [] frames 2))).2.flatten =
    junk ++ [expectedFrame fAidon, expectedFrame fEmpty] :=
  hdlc_resync_stuffing_chunked ⟨true, abort⟩ rfl pre hpre frames 2 hfsS (by decide) _ (split_flatten _)

/-- what really happens on this instance (abort detection on): the frame start ending in a lone escape is
    closed by the opening flag of the first clean frame, which is thereby lost; the lone escape does NOT damage
    anything after it (defects D4 / D13 repaired): the second and third frame are delivered, valid -/
example : (run ⟨true, true⟩ Core.init (pre ++ wire true [] frames 2)).2 = [expectedFrame fAidon, expectedFrame fEmpty] := by
  decide +kernel

/-! ### `hdlc_resync_plain` : stuffing off, flag-free frames, (abort on → last octet not an escape), `L` bounds
    fill + length.  Sixty copies of the real Aidon frame (42 octets, an escape octet inside, no flag) with one
    flag of fill: 2 580 octets of clean stream, more than 2047 + 2·43, so the conclusion is not empty. -/

def many : List (FrameDesc × Nat) := List.replicate 60 (fAidon, 1)

def sum_rep (n a : Nat) : (List.replicate n a).sum = n * a := by
  induction n with
  | zero => simp
  | succ n ih => rw [List.replicate_succ, List.sum_cons, ih, Nat.succ_mul]; omega

def hfsP (abort : Bool) : ∀ p ∈ many, p.1.WF ∧ 1 ≤ p.2 ∧ flag ∉ p.1.encode ∧
    ((Cfg.mk false abort).abort = true → p.1.encode.getLast? ≠ some esc) ∧ p.2 + p.1.encode.length ≤ 43 := by
  intro p hp
  rw [List.eq_of_mem_replicate hp]
  refine ⟨by decide, by decide, by decide +kernel, fun _ => by decide +kernel, by decide +kernel⟩

/-- the garbage in progress: the real Kaifa header announcing 39 octets, then noise — the reader is inside a
    frame when the clean stream begins -/
def preP : List Nat := [0x7E, 0xA0, 0x27, 0x01, 0x02, 0x01, 0x10, 0x5A, 0x87, 0xE6, 0x00, 0x11, 0x7D]

example (abort : Bool) : ∃ junk k, (run ⟨false, abort⟩ Core.init (preP ++ wire false [] many 1)).2 =
      junk ++ (List.replicate (60 - k) (expectedFrame fAidon)) ∧ 10 ≤ 60 - k := by
  obtain ⟨junk, k, h, hk⟩ := hdlc_resync_plain ⟨false, abort⟩ rfl preP (by decide) many 1 43 (hfsP abort) (by decide)
  refine ⟨junk, k, ?_, ?_⟩
  · rw [h]; simp only [many, List.drop_replicate, List.map_replicate]
  · -- the first k frames occupy at most 2047 + 86 octets, each 43: k ≤ 49
    have he : (1 + fAidon.encode.length) = 43 := by decide +kernel
    have hs : ((many.take k).map (fun p => p.2 + p.1.encode.length)).sum = min k 60 * 43 := by
      simp only [many, List.take_replicate, List.map_replicate, he]
      exact sum_rep _ _
    rw [hs] at hk
    have : maxFrameLen = 2047 := by decide
    omega

/-- what really happens on this instance: with abort detection the escape octet before the first flag aborts
    the garbage at once and only the first frame is lost.  (Without abort detection the garbage frame —
    announcing 39 octets, never of the right length at a flag — absorbs the clean stream until it exceeds 2047
    octets: `#eval` of the model gives 12 of the 60 frames, i.e. k = 48 of the allowed 49; the bound of the
    theorem is attained, not pessimistic.  Not checked here: ~40 s of kernel time.) -/
example : (run ⟨false, true⟩ Core.init (preP ++ wire false [] (many.take 3) 1)).2 =
    [expectedFrame fAidon, expectedFrame fAidon] := by
  decide +kernel

/-! ### `p1_resync` : `Octets pre`, well-formed readouts within the guard -/

/-- line noise, a complete-looking identification line with a truncated data line (no end line) -/
def preP1 : List Nat := [0xFF, 0x00, 0x21, 0x0A] ++ C05.Witness.s "/LGF5E360\r\n\r\n1-0:1.8.0(0000"

example : Octets preP1 ∧
    ∃ r outs junk, P1.readAll P1.Reader.init (C05.Witness.chunksOf 64 150 (preP1 ++ C05.Witness.ds.flatMap ReadoutDesc.encode)) =
        .ok (r, outs) ∧
      outs.flatten = junk ++ [expectedReadout C05.Witness.dB, expectedReadout C05.Witness.dS, expectedReadout C05.Witness.dLong] :=
  ⟨by decide +kernel,
   p1_resync preP1 (by decide +kernel) C05.Witness.ds _ C05.Witness.hds (C05.Witness.chunksOf_flatten 64 150 _)⟩

end Amshan.C16.Witness
