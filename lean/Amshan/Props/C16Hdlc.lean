import Amshan.Lemmas.HdlcResyncPlain
/-
  C16 (HDLC part) — after arbitrary bytes the reader resynchronises with bounded loss, and an
  aborted, discarded or invalid frame never corrupts the frame that follows it.
-/
namespace Amshan.C16
open Amshan.Gen Amshan.Hdlc Amshan.HdlcSpec Amshan.HdlcClean

/-- **C16 (octet stuffing).** After ANY octets `pre` (noise, look-alike frame starts, a prefix ending
    in an escape octet, truncated frames, abort sequences …) a clean stream of stuffed well-formed
    frames is delivered completely except possibly its first frame: the frames returned end with
    all frames but the first, exact and in order. -/
theorem hdlc_resync_stuffing (cfg : Cfg) (hst : cfg.stuffing = true) (pre : List Nat)
    (hpre : Octets pre) (fs : List (FrameDesc × Nat)) (closing : Nat)
    (hfs : ∀ p ∈ fs, p.1.WF ∧ 1 ≤ p.2) (hcl : 1 ≤ closing) :
    ∃ junk, (run cfg Core.init (pre ++ wire true [] fs closing)).2 =
      junk ++ fs.tail.map (fun p => expectedFrame p.1) :=
  resync_stuffing_from cfg hst Core.init CoreInv_init pre hpre fs closing hfs hcl

/-- the same through any splitting into `read()` calls -/
theorem hdlc_resync_stuffing_chunked (cfg : Cfg) (hst : cfg.stuffing = true) (pre : List Nat)
    (hpre : Octets pre) (fs : List (FrameDesc × Nat)) (closing : Nat)
    (hfs : ∀ p ∈ fs, p.1.WF ∧ 1 ≤ p.2) (hcl : 1 ≤ closing)
    (chunks : List (List Nat)) (hch : chunks.flatten = pre ++ wire true [] fs closing) :
    ∃ junk, (readAll cfg Reader.init chunks).2.flatten =
      junk ++ fs.tail.map (fun p => expectedFrame p.1) := by
  rw [readAll_init, hch]
  exact resync_stuffing_from cfg hst Core.init CoreInv_init pre hpre fs closing hfs hcl

/-- **C16 (no stuffing).** Frames that contain no flag octet are delivered once the garbage frame in
    progress has died: there is a point at most `maxFrameLen` octets plus two frames (with their fill)
    into the clean stream after which every frame is delivered, exact and in order
    (`hdlc_resync_plain_tight` has the bound with one frame).
    `L` bounds the wire length `fill + |frame|` of every frame. -/
theorem hdlc_resync_plain (cfg : Cfg) (hst : cfg.stuffing = false) (pre : List Nat)
    (hpre : Octets pre) (fs : List (FrameDesc × Nat)) (closing L : Nat)
    (hfs : ∀ p ∈ fs, p.1.WF ∧ 1 ≤ p.2 ∧ flag ∉ p.1.encode ∧
      (cfg.abort = true → p.1.encode.getLast? ≠ some esc) ∧ p.2 + p.1.encode.length ≤ L)
    (hcl : 1 ≤ closing) :
    ∃ junk k, (run cfg Core.init (pre ++ wire false [] fs closing)).2 =
        junk ++ (fs.drop k).map (fun p => expectedFrame p.1) ∧
      ((fs.take k).map (fun p => p.2 + p.1.encode.length)).sum ≤ maxFrameLen + L + L := by
  obtain ⟨junk, k, e, hb⟩ := resync_plain_from cfg hst Core.init CoreInv_init pre hpre fs closing L hfs hcl
  exact ⟨junk, k, e, Nat.le_trans hb (Nat.le_add_right _ L)⟩

end Amshan.C16
