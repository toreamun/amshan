import Amshan.Props.C08
import Amshan.Props.C11Float
/-
  C08 with the floating-point hypothesis discharged: `round(v·10^-s, s)` is the correctly rounded
  quotient (Props/C11Float.lean `scaled_correct`, proved about the exact binary64 model).
-/
namespace Amshan.C08
open Amshan.Cosem Amshan.ListSpec

theorem scaledCorrect : ScaledCorrect := Amshan.C11.scaled_correct

/-- **C08 (positional lists, bare body)** — currents = register/1000, voltages = register/10 as the
    correctly rounded doubles, powers and energies = the register, text verbatim, manufacturer 'Kaifa' -/
theorem kaifa_values_body_final (vs : List KVal) (h : KaifaValuesWF vs) (trail : List Nat) :
    Kaifa.decodeBody (encKaifaValues vs ++ trail) = .dict (kaifaValuesExpected none vs) :=
  kaifa_values_body scaledCorrect vs h trail

theorem kaifa_values_frame_final (hd : Header) (hh : hd.WF) (hc : hd.clock ≠ .null)
    (vs : List KVal) (h : KaifaValuesWF vs) (trail : List Nat) :
    Kaifa.decodeFrame (encHeader hd ++ encKaifaValues vs ++ trail) =
      .dict (kaifaValuesExpected (some (match hd.clock with
        | .tagged d => expectedDT d | .untagged d => expectedDT d | .null => default)) vs) :=
  kaifa_values_frame scaledCorrect hd hh hc vs h trail

theorem kaifa_obis_body_final (es : List (List Nat × KVal))
    (h : ∀ p ∈ es, Obis6 p.1 ∧ p.2.WF) (hs : ScaledAreRegisters es) (hl : es.length ≤ 127) :
    Kaifa.decodeBody (encKaifaObis es) = .dict (kaifaObisExpected es) :=
  kaifa_obis_body scaledCorrect es h hs hl

theorem kaifa_obis_frame_final (hd : Header) (hh : hd.WF) (es : List (List Nat × KVal))
    (h : ∀ p ∈ es, Obis6 p.1 ∧ p.2.WF) (hs : ScaledAreRegisters es) (hl : es.length ≤ 127) :
    Kaifa.decodeFrame (encHeader hd ++ encKaifaObis es) = .dict (kaifaObisExpected es) :=
  kaifa_obis_frame scaledCorrect hd hh es h hs hl

end Amshan.C08
