import Amshan.Props.C04
import Amshan.Lemmas.Fcs
/-
  C04 — what the CRC comparison buys: the CRC-16/ARC byte step is, for every byte, injective on the 16-bit
  registers and, for every register, injective in the byte (the argument of C03Detect with the other
  polynomial: `ByteStep`), so two texts `'/' … '!'` that differ in exactly one byte never have
  the same CRC — a readout whose check-summed part has one damaged byte cannot match the checksum that
  was right for the undamaged one (any length, any position).  Theorems about the model `crc16` of
  `_calculate_crc16` (translated and proved equal to the model in Props/C04Gen.lean).
-/
namespace Amshan.C04
open Amshan.Gen Amshan.P1 Amshan.P1Spec Amshan.Py
open Amshan.FcsLemmas (shiftXor_inj ByteStep)

theorem crcShift_inj (x y : Nat) (hx : x < 65536) (hy : y < 65536) (h : crcShift x = crcShift y) :
    x = y := by
  rw [P1L.crcShift_eq, P1L.crcShift_eq] at h
  exact shiftXor_inj (by decide) hx hy h

theorem crcShifts_inj (n x y : Nat) (hx : x < 65536) (hy : y < 65536)
    (h : crcShifts n x = crcShifts n y) : x = y := by
  induction n generalizing x y with
  | zero => exact h
  | succ n ih =>
    exact crcShift_inj x y hx hy (ih _ _ (P1L.crcShift_lt x hx) (P1L.crcShift_lt y hy) h)

/-- one byte step of CRC-16/ARC -/
def arcStep (crc b : Nat) : Nat := crcShifts 8 (crc ^^^ b)

theorem arcStep_byteStep : ByteStep arcStep (crcShifts 8) :=
  ⟨fun _ _ _ => rfl, P1L.crcShifts_lt 8, crcShifts_inj 8⟩

theorem arcStep_inj_register (r r' b : Nat) (hr : r < 65536) (hr' : r' < 65536) (hb : b < 256)
    (h : arcStep r b = arcStep r' b) : r = r' :=
  arcStep_byteStep.inj_register hr hr' hb h

theorem arcStep_inj_byte (r b b' : Nat) (hr : r < 65536) (hb : b < 256) (hb' : b' < 256)
    (h : arcStep r b = arcStep r b') : b = b' :=
  arcStep_byteStep.inj_octet hr hb hb' h

theorem arcFold_inj_register (bs : List Nat) (r r' : Nat) (hr : r < 65536) (hr' : r' < 65536)
    (h : Octets bs) (e : bs.foldl arcStep r = bs.foldl arcStep r') : r = r' :=
  arcStep_byteStep.foldl_inj_register hr hr' h e

/-- **C04 (single-byte sensitivity).** Two byte strings that differ in exactly one byte have different
    CRC-16/ARC values — any lengths, any position. -/
theorem one_byte_changes_crc (p s : List Nat) (x y : Nat) (hp : Octets p) (hs : Octets s)
    (hx : x < 256) (hy : y < 256) (hne : x ≠ y) :
    crc16 (p ++ x :: s) ≠ crc16 (p ++ y :: s) := by
  rw [crc_is_arc, crc_is_arc]
  exact arcStep_byteStep.one_octet_ne (by decide) hp hs hx hy hne

/-- **C04.** Hence a checksum that is right for the undamaged text is wrong for the damaged one. -/
theorem one_byte_damage_mismatch (p s : List Nat) (x y : Nat) (hp : Octets p) (hs : Octets s)
    (hx : x < 256) (hy : y < 256) (hne : x ≠ y) (sent : Nat)
    (right : sent = crc16 (p ++ x :: s)) : sent ≠ crc16 (p ++ y :: s) := by
  rw [right]
  exact one_byte_changes_crc p s x y hp hs hx hy hne

/-- **C04 (readout level).** A readout whose transmitted checksum is the CRC of a text that differs in
    exactly one byte from the text it actually covers (`'/'` through `'!'`) is reported not valid. -/
theorem one_byte_damage_invalid (raw : List Nat) (r : Readout) (hm : Readout.make raw = .ok r) (v : Nat)
    (ht : IsChecksumText r.afterBang v) (p s : List Nat) (x y : Nat)
    (hcov : r.bytes.take (r.endPos + 1) = p ++ y :: s)
    (hp : Octets p) (hs : Octets s) (hx : x < 256) (hy : y < 256) (hne : x ≠ y)
    (hv : v = crc16Arc (p ++ x :: s)) : r.isValid = .ok false := by
  apply mismatch_invalid raw r hm v ht
  rw [hcov, hv, ← crc_is_arc, ← crc_is_arc]
  exact one_byte_changes_crc p s x y hp hs hx hy hne

/-- non-vacuity -/
example : crc16 ([47, 65] ++ 66 :: [33]) ≠ crc16 ([47, 65] ++ 67 :: [33]) :=
  one_byte_changes_crc [47, 65] [33] 66 67 (by decide) (by decide) (by decide) (by decide) (by decide)

end Amshan.C04
