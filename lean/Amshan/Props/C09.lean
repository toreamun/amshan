import Amshan.Lemmas.KamstrupRT
/-
  C09 — Kamstrup lists decode to the transmitted values with the documented scaling.
-/
namespace Amshan.C09
open Amshan.Gen Amshan.Cosem Amshan.ListSpec

def ScaledCorrect : Prop :=
  ∀ (v : Nat) (s : Nat), v < 4294967296 → (s = 1 ∨ s = 2 ∨ s = 3) →
    Flt.roundDigits (Flt.mul (Flt.ofInt v) (Flt.tenPowNeg s)) s = Flt.ofRat false v (10 ^ s)

/-- the scaling tables, the meter-type OBIS code and the CT prefix of the source are the documented
    ones -/
theorem tables_documented :
    kamScalingStd = [("1.1.1.8.0.255", 1), ("1.1.2.8.0.255", 1), ("1.1.3.8.0.255", 1), ("1.1.31.7.0.255", -2),
                     ("1.1.4.8.0.255", 1), ("1.1.51.7.0.255", -2), ("1.1.71.7.0.255", -2)] ∧
    kamScalingCt = [("1.1.1.8.0.255", 1), ("1.1.2.8.0.255", 1), ("1.1.3.8.0.255", 1), ("1.1.31.7.0.255", -3),
                    ("1.1.4.8.0.255", 1), ("1.1.51.7.0.255", -3), ("1.1.71.7.0.255", -3)] ∧
    kamNormalizeStrings = ["Kamstrup", "1.1.96.1.1.255", "685"] := by
  decide

/-- **C09 (bare body).** List-version string, OBIS-tagged elements (codes whose C.D.E groups the name
    map knows, any other is a KeyError in the source; the clock code carries a clock value and no
    other code does) with any amount of null-data padding after any element, any meter type number
    (CT meters begin with 685): currents = register/100 (register/1000 for CT meters), energies =
    register × 10, everything else unchanged, text verbatim, manufacturer 'Kamstrup'. -/
theorem kamstrup_body (hF : ScaledCorrect) (l : KamList) (h : l.WF) :
    Kamstrup.decodeBody (encKamList l) = .dict (kamExpected l) := by
  unfold Kamstrup.decodeBody
  rw [KamstrupRT.notificationBody_enc l h]
  simp only [KamstrupRT.normalize_ok hF l h]

/-- **C09 (frame).** For a header whose date-time is not the null one: the meter clock is the APDU
    date-time (it overrides a clock element); every other field as for the bare body. -/
theorem kamstrup_frame (hF : ScaledCorrect) (hd : Header) (hh : hd.WF) (hc : hd.clock ≠ .null)
    (l : KamList) (h : l.WF) :
    Kamstrup.decodeFrame (encHeader hd ++ encKamList l) =
      .dict ((kamExpected l).set "meter_datetime" (.dt (match hd.clock with
        | .tagged d => expectedDT d | .untagged d => expectedDT d | .null => default))) := by
  rw [KamstrupRT.decodeFrame_header hd hh, kamstrup_body hF l h, CosemDT.clockOf_dt hc]
  rfl

end Amshan.C09
