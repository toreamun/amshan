import Amshan.Props.C20
/-
  C20 — "format back losslessly", stated as injectivity: two codes that render to the same text are the
  same code.  Corollaries of the round-trip theorems (the parser is a left inverse of both formatters
  on the round-trip domain), plus the witnesses that show the side condition is needed: outside it
  (an optional group present and 0) the reduced formatter really does merge two different codes.
-/
namespace Amshan.C20
open Amshan.Gen Amshan.Obis Amshan.ObisSpec

/-- the round-trip domain of `roundtrip` / `roundtrip_str`, as one predicate on the six groups -/
def RoundTrippable (g : Groups) : Prop :=
  (optLe g.1 255 ∧ absentOrNonZero g.1) ∧ (optLe g.2.1 255 ∧ absentOrNonZero g.2.1) ∧
  g.2.2.1 ≤ 255 ∧ g.2.2.2.1 ≤ 255 ∧
  (optLe g.2.2.2.2.1 255 ∧ absentOrNonZero g.2.2.2.2.1) ∧
  (optLe g.2.2.2.2.2 255 ∧ absentOrNonZero g.2.2.2.2.2)

theorem roundtrip_of (g : Groups) (h : RoundTrippable g) : parse (toReducedStr g) = .ok g := by
  obtain ⟨a, b, c, d, e, f⟩ := g
  obtain ⟨ha, hb, hc, hd, he, hf⟩ := h
  exact roundtrip a b c d e f ha hb hc hd he hf

theorem roundtrip_str_of (g : Groups) (h : RoundTrippable g) : parse (toStr g) = .ok g := by
  obtain ⟨a, b, c, d, e, f⟩ := g
  obtain ⟨ha, hb, hc, hd, he, hf⟩ := h
  exact roundtrip_str a b c d e f ha hb hc hd he hf

theorem injective_of_roundtrip {fmt : Groups → List Nat}
    (rt : ∀ g, RoundTrippable g → parse (fmt g) = .ok g) (g h : Groups) (hg : RoundTrippable g)
    (hh : RoundTrippable h) (e : fmt g = fmt h) : g = h := by
  have h1 := rt g hg
  rw [e, rt h hh] at h1
  exact (Except.ok.inj h1).symm

theorem eq_own_of_roundtrip {fmt : Groups → List Nat}
    (rt : ∀ g, RoundTrippable g → parse (fmt g) = .ok g) (g h : Groups) (hh : RoundTrippable h) :
    eqStr g (fmt h) = true ↔ g = h := by
  rw [eq_string_parses_first, rt h hh]
  exact ⟨fun e => (Except.ok.inj e).symm, fun e => by rw [e]⟩

/-- **C20 (lossless, reduced form).** On the round-trip domain the reduced rendering determines the code. -/
theorem toReducedStr_injective (g h : Groups) (hg : RoundTrippable g) (hh : RoundTrippable h)
    (e : toReducedStr g = toReducedStr h) : g = h :=
  injective_of_roundtrip roundtrip_of g h hg hh e

/-- **C20 (lossless, `str`).** On the round-trip domain `str(obis)` determines the code. -/
theorem toStr_injective (g h : Groups) (hg : RoundTrippable g) (hh : RoundTrippable h)
    (e : toStr g = toStr h) : g = h :=
  injective_of_roundtrip roundtrip_str_of g h hg hh e

/-- a rendering of a round-trippable code compares equal (`Obis.__eq__` with a string) to exactly that code -/
theorem eq_own_rendering (g h : Groups) (hh : RoundTrippable h) :
    eqStr g (toReducedStr h) = true ↔ g = h :=
  eq_own_of_roundtrip roundtrip_of g h hh

theorem eq_own_str (g h : Groups) (hh : RoundTrippable h) :
    eqStr g (toStr h) = true ↔ g = h :=
  eq_own_of_roundtrip roundtrip_str_of g h hh

/-- the side condition is needed: a present-but-zero optional group is dropped by the reduced formatter,
    so two different codes share one rendering (checked counterexample, not a defect: property C20 states
    the round trip for "absent or non-zero" optional groups) -/
theorem zero_group_merges :
    toReducedStr (some 0, none, 1, 8, none, none) = toReducedStr (none, none, 1, 8, none, none) ∧
    ((some 0, none, 1, 8, none, none) : Groups) ≠ (none, none, 1, 8, none, none) := by
  decide

/-- non-vacuity: a full six-group code is in the domain -/
example : RoundTrippable (some 1, some 1, 1, 8, some 2, some 255) := by
  simp [RoundTrippable, optLe, absentOrNonZero]

end Amshan.C20
