import Amshan.Lemmas.Fcs
/-
  C03 — FCS-16 implementation equals the RFC 1662 definition for every input.

  Model: Amshan/Model/Fcs.lean (han/fastframecheck.py; table and constants regenerated from source)
  Spec : Amshan/Spec/Rfc1662.lean (bit-serial FCS-16, nothing taken from the repository)
-/
namespace Amshan.C03
open Amshan.Gen Amshan.Rfc1662 Amshan.FcsLemmas

/-- The 256-entry table of the source is the RFC table: entry `i` is the result of shifting octet
    `i` serially into a zero register (re-proved against the regenerated table on every run). -/
theorem table_is_rfc : fcsTable = (List.range 256).map (fun i => stepSerial 0 i) := by
  rw [table_eq]
  apply List.map_congr_left
  intro i hi
  rw [stepSerial_eq 0 i (List.mem_range.mp hi), Nat.zero_xor]

/-- The table-driven step equals the bit-serial step for all 2^16 registers × 2^8 octets (the bound on the
    register is not needed). -/
theorem step_eq_serial (r b : Nat) (hr : r < 65536) (hb : b < 256) :
    Fcs.next r b = stepSerial r b := by
  rw [next_eq_iter r b hb, stepSerial_eq r b hb]

theorem init_is_rfc : fcsInit = 0xFFFF := by decide

/-- `update()` over any byte string leaves the RFC register. -/
theorem update_eq (bs : List Nat) (h : Octets bs) : Fcs.feed fcsInit bs = register bs := by
  unfold register
  rw [init_is_rfc]
  exact next_byteStep.foldl_congr stepSerial_byteStep _ h

/-- `.checksum` after any byte string is the RFC FCS-16 (complemented register). -/
theorem checksum_eq (bs : List Nat) (h : Octets bs) :
    Fcs.checksum (Fcs.feed fcsInit bs) = fcs16 bs := by
  unfold Fcs.checksum fcs16
  rw [update_eq bs h]
  rfl

theorem computeLoop_eq_ite (data : List Nat) (n i fcs : Nat) :
    Fcs.computeLoop data i n fcs =
      if n = 0 ∨ i + n ≤ data.length then .ok (Fcs.feed fcs ((data.drop i).take n)) else .error .indexError := by
  induction n generalizing i fcs with
  | zero => rfl
  | succ n ih =>
    rw [Fcs.computeLoop]
    by_cases hi : i < data.length
    · rw [List.getElem?_eq_getElem hi, List.drop_eq_getElem_cons hi, List.take_succ_cons]
      simp only [ih, show (n = 0 ∨ i + 1 + n ≤ data.length) ↔ (n + 1 = 0 ∨ i + (n + 1) ≤ data.length) by omega]
      rfl
    · rw [List.getElem?_eq_none (by omega), if_neg (by omega)]

theorem computeLoop_eq (data : List Nat) (n i fcs : Nat) (h : i + n ≤ data.length) :
    Fcs.computeLoop data i n fcs = .ok (Fcs.feed fcs ((data.drop i).take n)) := by
  rw [computeLoop_eq_ite, if_pos (Or.inr h)]

/-- `compute_checksum(data, start, length)` is the RFC FCS-16 of the window, for every window
    inside the data. -/
theorem computeChecksum_eq (data : List Nat) (start len : Nat) (h : Octets data)
    (hw : start + len ≤ data.length) :
    Fcs.computeChecksum data start len = .ok (fcs16 ((data.drop start).take len)) := by
  unfold Fcs.computeChecksum
  rw [computeLoop_eq data len start fcsInit hw]
  have hoct : Octets ((data.drop start).take len) := fun x hx =>
    h x (List.mem_of_mem_drop (List.mem_of_mem_take hx))
  simp only
  rw [update_eq _ hoct]
  rfl

/-- …and raises IndexError (as `data[i]` does) when a non-empty window leaves the data. -/
theorem computeChecksum_out_of_range (data : List Nat) (start len : Nat)
    (hl : 0 < len) (hw : start + len > data.length) :
    Fcs.computeChecksum data start len = .error .indexError := by
  unfold Fcs.computeChecksum
  rw [computeLoop_eq_ite, if_neg (by omega)]

/-- After a message has been fed, `is_good` is true exactly when the message ends with the FCS of
    the preceding octets, low octet first. -/
theorem residue (m : List Nat) (t0 t1 : Nat) (hm : Octets m) (h0 : t0 < 256) (h1 : t1 < 256) :
    Fcs.isGood (Fcs.feed fcsInit (m ++ [t0, t1])) = true ↔
      (t0 = fcs16 m % 256 ∧ t1 = fcs16 m / 256) := by
  have hr : Fcs.feed fcsInit m < 65536 := feed_lt _ _ (by decide) hm
  have hx : Fcs.feed fcsInit m ^^^ (t0 + 256 * t1) < 65536 := Nat.xor_lt_two_pow (n := 16) hr (by omega)
  have hfcs : fcs16 m = Fcs.feed fcsInit m ^^^ 0xFFFF := by
    unfold fcs16; rw [update_eq m hm]
  rw [feed_append, show Fcs.feed _ [t0, t1] = Fcs.next (Fcs.next _ t0) t1 from rfl, two_steps _ t0 t1 h0 h1]
  -- sixteen shifts are injective: good exactly when register ^^^ trailer = 0xFFFF
  rw [isGood_iff, ← good_const, show t0 = fcs16 m % 256 ∧ t1 = fcs16 m / 256 ↔ t0 + 256 * t1 = fcs16 m by omega, hfcs]
  exact ⟨fun h => eq_xor_comm.mp (iter_inj 16 _ _ (by decide) hx h),
    fun h => by rw [h, ← Nat.xor_assoc, Nat.xor_self, Nat.zero_xor]⟩

/-! Non-vacuity: the hypotheses are met by concrete, non-trivial data. -/
example : Octets [0x7E, 0xA0, 0xFF, 0x00] ∧ (0xA0 : Nat) < 256 := by decide
example : Fcs.isGood (Fcs.feed fcsInit ([1, 2, 3] ++ [fcs16 [1, 2, 3] % 256, fcs16 [1, 2, 3] / 256])) = true := by
  decide +kernel

end Amshan.C03
