import Amshan.Lemmas.CosemDT
/-
  C10 — COSEM date-time fields decode to the same instant the meter sent, in each syntactic position
  where the decoders accept a date-time.  (Positions inside the three list grammars are also covered
  by the round-trip theorems of C07, C08, C09, which use `expectedDT` for their clock elements.)
-/
namespace Amshan.C10
open Amshan.Gen Amshan.Cosem Amshan.ListSpec

/-- the enum table read from the source is the Blue Book's -/
theorem tag_pins : tNull = 0 ∧ tArray = 1 ∧ tStructure = 2 ∧ tU32 = 6 ∧ tOctet = 9 ∧ tVisible = 10 ∧
    tInt8 = 15 ∧ tInt16 = 16 ∧ tU16 = 18 ∧ tEnum = 22 :=
  open CosemDT in
  ⟨tNull_eq, tArray_eq, tStructure_eq, tU32_eq, tOctet_eq, tVisible_eq, tInt8_eq, tInt16_eq, tU16_eq, tEnum_eq⟩

/-- **C10.** Every valid COSEM date-time (all calendar dates 1..9999, all times of day, hundredths
    0..99 or unspecified, deviation −720..720 or unspecified, any status octet, any day of week)
    decodes to exactly those civil fields, microseconds = hundredths × 10000 and UTC offset =
    −deviation (none when unspecified); the 13 octets are consumed, whatever follows. -/
theorem datetime_exact (d : DateTimeDesc) (h : d.Valid) (rest : List Nat) :
    dateTime (encDateTime d ++ rest) = .ok (expectedDT d) rest :=
  CosemDT.datetime_exact d h rest

/-- position: generic field / Kaifa list element (octet-string tag, `Select(DateTime, text)`) -/
theorem datetime_in_field (d : DateTimeDesc) (h : d.Valid) (rest : List Nat) :
    field ([9] ++ encDateTime d ++ rest) = .ok (.dt (expectedDT d)) rest :=
  CosemDT.datetime_in_field d h rest

/-- position: Kamstrup element / tagged APDU date-time (`DateTimeField`) -/
theorem datetime_in_dateTimeField (d : DateTimeDesc) (h : d.Valid) (rest : List Nat) :
    dateTimeField ([9] ++ encDateTime d ++ rest) = .ok (expectedDT d) rest :=
  CosemDT.datetime_in_dateTimeField d h rest

/-- what `apdu` returns for each form of the APDU date-time (the null form is read with
    `construct.Byte`) -/
def clockOf : ApduClock → ApduDT
  | .null => .byte 0
  | .tagged d => .dt (expectedDT d)
  | .untagged d => .dt (expectedDT d)

/-- positions: APDU header with null, tagged or untagged date-time; the notification body parser
    receives exactly the octets after the header -/
theorem apdu_clock {β : Type} (hd : Header) (hh : hd.WF) (body : List Nat → Res β) (rest : List Nat) :
    llc body (encHeader hd ++ rest) = (body rest).bind (fun b r => .ok (clockOf hd.clock, b) r) :=
  -- `clockOf` above and `CosemDT.clockOf` unfold to the same case distinction
  CosemDT.llc_clock hd hh body rest

/-- hours, minutes or seconds "not specified" are NOT decodable (TypeError in the source): the
    hypothesis of `datetime_exact` is needed -/
example : dateTime [0x0C, 7, 0xE4, 1, 1, 3, 0xFF, 0, 0, 0xFF, 0x80, 0, 0] = .py .typeError := by rfl

example : (DateTimeDesc.mk 2024 2 29 4 23 59 59 (some 99) (some (-720)) 0x80).Valid := by decide

end Amshan.C10

