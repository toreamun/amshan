import Amshan.Props.C17
/-
  C17 — non-vacuity witnesses: every hypothesis-carrying theorem of Props/C17.lean is instantiated on states of
  ONE concrete, realistic run of the manager model (max_delay 60 s, loss threshold 5 s, loss sleep 5 s):

    connect_loop starts · first attempt fails · second attempt (after the 1 s back-off) succeeds ·
    the connection is lost · reconnect succeeds · lost again 2 s later (inside the threshold: breaker set) ·
    close() arrives while the connect task sleeps out the 5 s breaker delay · connect_loop returns.

  `exec` runs a list of transition labels; `reach_exec` turns a successful execution into `Reach`.
-/
namespace Amshan.C17.Witness
set_option linter.defProp false
open Amshan.BackOff Amshan.ConnMgr

def exec : S → List Label → Option S
  | s, [] => some s
  | s, l :: ls => match next s l with | some s1 => exec s1 ls | none => none

def reach_exec {md th sl : Nat} : ∀ (ls : List Label) (s s' : S), Reach md th sl s → exec s ls = some s' →
    Reach md th sl s'
  | [], s, s', h, e => by simp only [exec, Option.some.injEq] at e; exact e ▸ h
  | l :: ls, s, s', h, e => by
    simp only [exec] at e
    cases hn : next s l with
    | none => rw [hn] at e; cases e
    | some s1 => rw [hn] at e; exact reach_exec ls s1 s' (Reach.step s s1 l h hn) e

def s0 : S := S.init 60 5 5

/-- the run, cut into phases -/
def toFirstFailure : List Label := [.lRun, .tRun, .factoryFail]          -- attempt at t=0 fails
def toSleeping : List Label := toFirstFailure ++ [.lRun, .tRun]           -- new connect task sleeps until t=1
def toSecondAttempt : List Label := toSleeping ++ [.tick 1, .tRun]        -- attempt at t=1
def toConnected : List Label := toSecondAttempt ++ [.factoryOk, .lRun]    -- connected, loop waits in w2
def toLost1 : List Label := toConnected ++ [.tick 100, .lose, .lRun, .tRun, .factoryOk, .lRun]   -- lost at 101, reconnected
def toLost2 : List Label := toLost1 ++ [.tick 2, .lose, .lRun, .tRun]     -- lost again at 103: breaker → sleeps 5 s
def toClosing : List Label := toLost2 ++ [.tick 1, .close]                -- close() during that sleep
def toExit : List Label := toClosing ++ [.lRun]

def st (ls : List Label) : S := (exec s0 ls).getD s0

def reach (ls : List Label) (h : (exec s0 ls).isSome = true) : Reach 60 5 5 (st ls) := by
  cases he : exec s0 ls with
  | none => rw [he] at h; cases h
  | some s' =>
    have : st ls = s' := by simp only [st, he, Option.getD_some]
    rw [this]
    exact reach_exec ls s0 s' Reach.init he

def rSleeping : Reach 60 5 5 (st toSleeping) := reach _ (by decide +kernel)
def rConnected : Reach 60 5 5 (st toConnected) := reach _ (by decide +kernel)
def rLost2 : Reach 60 5 5 (st toLost2) := reach _ (by decide +kernel)
def rClosing : Reach 60 5 5 (st toClosing) := reach _ (by decide +kernel)
def rExit : Reach 60 5 5 (st toExit) := reach _ (by decide +kernel)

/-- the event log of the whole run: (time, event) -/
example : (st toExit).log =
    [(0, .attempt), (0, .failed), (1, .attempt), (1, .obtained 0), (101, .lost 0), (101, .attempt), (101, .obtained 1),
     (103, .lost 1), (104, .closeCalled), (104, .loopDone)] := by
  decide +kernel

/-! ### `at_most_one_live`, `tasks_bounded`, `no_deadlock` : `Reach s` (and `lpc ≠ exited`) -/

example : (st toConnected).live = [0] ∧ (st toConnected).conn = some 0 ∧ (st toConnected).lpc = .w2 ∧
    (st toConnected).live.length ≤ 1 ∧ pendingTasks (st toConnected) ≤ 3 ∧ pendingTasks (st toConnected) = 2 :=
  ⟨by decide +kernel, by decide +kernel, by decide +kernel, (at_most_one_live _ rConnected).1,
   tasks_bounded _ rConnected, by decide +kernel⟩

/-- connected and waiting for the loss of the live connection: the last disjunct of `no_deadlock` is the one
    that holds; while sleeping out the back-off, the third -/
example : (st toConnected).lpc ≠ .exited ∧ next (st toConnected) .lRun = none ∧ next (st toConnected) .tRun = none ∧
    ((st toConnected).lpc = .w2 ∧ ∃ c, (st toConnected).conn = some c ∧ c ∈ (st toConnected).live) ∧
    (st toSleeping).t = .sleeping 1 := by
  refine ⟨by decide +kernel, by decide +kernel, by decide +kernel, ?_, by decide +kernel⟩
  have hl : next (st toConnected) .lRun = none := by decide +kernel
  have ht : next (st toConnected) .tRun = none := by decide +kernel
  have hf : (st toConnected).t = .finished := by decide +kernel
  rcases no_deadlock _ rConnected (by decide +kernel) with ⟨_, h⟩ | ⟨_, h⟩ | ⟨u, h⟩ | h | h
  · rw [hl] at h; cases h
  · rw [ht] at h; cases h
  · rw [hf] at h; cases h
  · rw [hf] at h; cases h
  · exact h

/-! ### `attempt_only_after_previous_ended`, `no_attempt_after_close`, `attempt_not_before_wake` :
    a transition that logs an attempt — the wake-up of the connect task at t = 1 -/

def beforeAttempt : S := st (toSleeping ++ [.tick 1])
def afterAttempt : S := st toSecondAttempt

def hstep : next beforeAttempt .tRun = some afterAttempt := by decide +kernel
def hlog : (beforeAttempt.now, Ev.attempt) ∈ afterAttempt.log.drop beforeAttempt.log.length := by decide +kernel

example : beforeAttempt.t = .sleeping 1 ∧ beforeAttempt.now = 1 ∧
    (beforeAttempt.live = [] ∧ beforeAttempt.conn = none) ∧
    (beforeAttempt.closing = false ∧ beforeAttempt.lpc ≠ .exited) ∧ 1 ≤ beforeAttempt.now := by
  have hr : Reach 60 5 5 beforeAttempt := reach _ (by decide +kernel)
  exact ⟨by decide +kernel, by decide +kernel,
    attempt_only_after_previous_ended _ _ .tRun hr hstep hlog,
    no_attempt_after_close _ _ .tRun hr hstep hlog,
    attempt_not_before_wake _ _ 1 hstep (by decide +kernel) hlog⟩

/-- the same for the reconnect attempt right after the first loss (previous connection 0 has ended) -/
example : let s := st (toConnected ++ [.tick 100, .lose, .lRun])
    ∃ s', next s .tRun = some s' ∧ (s.now, Ev.attempt) ∈ s'.log.drop s.log.length ∧ s.live = [] ∧ s.conn = none ∧
      s.doneSet = [0] := by
  intro s
  have hr : Reach 60 5 5 s := reach _ (by decide +kernel)
  have hs : next s .tRun = some (st toLost1 |> fun _ => (next s .tRun).getD s) := by decide +kernel
  have hl : (s.now, Ev.attempt) ∈ ((next s .tRun).getD s).log.drop s.log.length := by decide +kernel
  have := attempt_only_after_previous_ended s _ .tRun hr hs hl
  exact ⟨_, hs, hl, this.1, this.2, by decide +kernel⟩

/-! ### `sleeps_backoff_time` : `next s .tRun = some s'`, `s.t = .created`, no cancel request, back-off > 0 —
    (a) after one failure: 1 s; (b) after two losses within the threshold: the breaker's 5 s -/

example : let s := st (toFirstFailure ++ [.lRun])
    s.t = .created ∧ s.cancelReq = false ∧ getBackOffTime s.backoff s.breaker = 1 ∧
    ∃ s', next s .tRun = some s' ∧ s'.t = .sleeping (s.now + getBackOffTime s.backoff s.breaker) ∧ s'.log = s.log := by
  intro s
  have hs : next s .tRun = some ((next s .tRun).getD s) := by decide +kernel
  exact ⟨by decide +kernel, by decide +kernel, by decide +kernel, _, hs,
    sleeps_backoff_time s _ hs (by decide +kernel) (by decide +kernel) (by decide +kernel)⟩

example : let s := st (toLost1 ++ [.tick 2, .lose, .lRun])
    s.breaker.sleepFlag = true ∧ s.backoff.current = 0 ∧ getBackOffTime s.backoff s.breaker = 5 ∧ s.now = 103 ∧
    ∃ s', next s .tRun = some s' ∧ s'.t = .sleeping 108 := by
  intro s
  have hs : next s .tRun = some ((next s .tRun).getD s) := by decide +kernel
  have h := sleeps_backoff_time s _ hs (by decide +kernel) (by decide +kernel) (by decide +kernel)
  refine ⟨by decide +kernel, by decide +kernel, by decide +kernel, by decide +kernel, _, hs, ?_⟩
  rw [h.1]; decide +kernel

/-! ### `close_never_waits` : `Reach s`, `closing = true`, `lpc ≠ exited` — close() landed during the 5 s sleep -/

example : (st toClosing).closing = true ∧ (st toClosing).t = .sleeping 108 ∧ (st toClosing).now = 104 ∧
    (st toClosing).lpc = .w1 ∧ ∃ s', next (st toClosing) .lRun = some s' ∧ s'.lpc = .exited :=
  ⟨by decide +kernel, by decide +kernel, by decide +kernel, by decide +kernel,
   close_never_waits _ rClosing (by decide +kernel) (by decide +kernel)⟩

/-! ### `exits_only_when_closing` : the transition into `exited` -/

example : next (st toClosing) .lRun = some (st toExit) ∧ (st toClosing).lpc ≠ .exited ∧ (st toExit).lpc = .exited ∧
    (st toClosing).closing = true := by
  have hs : next (st toClosing) .lRun = some (st toExit) := by decide +kernel
  exact ⟨hs, by decide +kernel, by decide +kernel,
    exits_only_when_closing _ _ .lRun rClosing hs (by decide +kernel) (by decide +kernel)⟩

/-! ### `exited_clean` : `Reach s`, `lpc = exited` — both transports closed or lost, the sleeping connect task has
    a cancellation pending and never reaches the factory -/

example : (st toExit).live = [] ∧ (st toExit).conn = none ∧ (st toExit).waiters = 0 ∧
    ((st toExit).t = .none ∨ (st toExit).t = .finished ∨ (st toExit).cancelReq = true) ∧
    (st toExit).t = .sleeping 108 ∧ (st toExit).cancelReq = true ∧
    (exec (st toExit) [.tick 10, .tRun]).map (·.log.length) = some (st toExit).log.length :=
  ⟨(exited_clean _ rExit (by decide +kernel)).1, (exited_clean _ rExit (by decide +kernel)).2.1,
   (exited_clean _ rExit (by decide +kernel)).2.2.1, (exited_clean _ rExit (by decide +kernel)).2.2.2,
   by decide +kernel, by decide +kernel, by decide +kernel⟩

/-- close() while CONNECTED: the transport is closed at once, and connect_loop exits at its next step -/
example : let s := (next (st toConnected) .close).getD s0
    Reach 60 5 5 s ∧ s.live = [] ∧ s.closing = true ∧ ∃ s', next s .lRun = some s' ∧ s'.lpc = .exited := by
  intro s
  have hr : Reach 60 5 5 s := Reach.step _ _ .close rConnected (by decide +kernel)
  exact ⟨hr, by decide +kernel, by decide +kernel, close_never_waits s hr (by decide +kernel) (by decide +kernel)⟩

end Amshan.C17.Witness
