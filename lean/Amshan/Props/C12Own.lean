import Amshan.Props.C12
import Amshan.Lemmas.DecOwnBody
import Amshan.Props.C07
/-
  C12 (concrete part) — a genuine message given to a fresh AutoDecoder, or to one that last succeeded
  with the same meter's decoder in the same form, is decoded by that meter's own decoder; and
  decode_message equals decode_message_payload of the payload for HDLC and DLMS messages.
  Decoder indices: 0 Aidon_frame, 1 Kaifa_frame, 2 Kamstrup_frame, 3 P1, 4 Aidon_notification_body,
  5 Kaifa_notification_body, 6 Kamstrup_notification_body (`decoder_order_pin`, Props/C12.lean).
-/
namespace Amshan.C12
open Amshan.Gen Amshan.Cosem Amshan.Dec Amshan.ListSpec

/-- same meter, same form: whatever the history, if the remembered decoder accepts the payload its
    result is returned and it stays remembered -/
theorem own_decoder_same_history (i : Nat) (d : Auto.Decoder (List Nat) Dict) (p : List Nat) (v : Dict)
    (hi : decoders[i]? = some d) (hv : d p = .ok v) :
    stepPayload (some i) p = .ok (some i, some v) := by
  exact prefers_previous decoders caught i d p v hi hv

/-- a genuine Aidon frame on a fresh AutoDecoder is decoded by Aidon_frame, with the dictionary of C07 -/
theorem own_aidon_frame_fresh (hd : Header) (hh : hd.WF) (es : List AidonElem) (h : ∀ e ∈ es, e.WF)
    (hl : es.length ≤ 255) :
    stepPayload none (encHeader hd ++ encAidonBody es) = .ok (some 0, some (aidonExpected es)) := by
  have := C07.aidon_roundtrip_frame hd hh es h hl []
  rw [List.append_nil] at this
  exact DecOwn.fresh (pre := []) DecTotal.decoders_eq trivial (congrArg ofOut this)

/-- the Aidon frame decoder rejects every frame whose notification body starts with the structure
    tag (Kaifa and Kamstrup bodies do) -/
theorem aidon_rejects_structure_body (hd : Header) (hh : hd.WF) (rest : List Nat) :
    ∃ e, (decoders[0]?.map (fun d => d (encHeader hd ++ [2] ++ rest))) = some (.error e) := by
  obtain ⟨e, he⟩ := DecOwn.aidon_frame_rej_head hd hh (2 :: rest) (by simp)
  refine ⟨e, ?_⟩
  rw [DecTotal.decoders_eq, List.append_assoc]
  exact congrArg some he

/-- whatever Kaifa_frame accepts after a well-formed header, if it does not start with the array tag,
    goes to Kaifa_frame on a fresh AutoDecoder -/
theorem own_kaifa_frame_payload_fresh (hd : Header) (hh : hd.WF) (s : List Nat) (hs : s.head? ≠ some 1)
    (d : Dict) (hdec : Kaifa.decodeFrame (encHeader hd ++ s) = .dict d) :
    stepPayload none (encHeader hd ++ s) = .ok (some 1, some d) :=
  DecOwn.fresh (pre := [_]) DecTotal.decoders_eq ⟨DecOwn.aidon_frame_rej_head hd hh s hs, trivial⟩
    (congrArg ofOut hdec)

/-- a Kaifa positional frame that Kaifa_frame accepts (`hdec`; the documented lists: C08) goes to
    Kaifa_frame on a fresh AutoDecoder -/
theorem own_kaifa_frame_fresh (hd : Header) (hh : hd.WF) (hc : hd.clock ≠ .null) (vs : List KVal)
    (d : Dict) (hdec : Kaifa.decodeFrame (encHeader hd ++ encKaifaValues vs) = .dict d) :
    stepPayload none (encHeader hd ++ encKaifaValues vs) = .ok (some 1, some d) := by
  have _ := hc
  exact own_kaifa_frame_payload_fresh hd hh _ (by rw [DecOwn.encKaifaValues_head]; decide) d hdec

/-- a genuine Kamstrup frame that Kamstrup_frame accepts (`hdec`; C09) goes to Kamstrup_frame on a
    fresh AutoDecoder, whatever the null-data padding after the version string: Aidon_frame rejects the structure tag and Kaifa_frame
    rejects because the first OBIS code contains an octet ≥ 0x80 (group F = 255), which is neither an
    OBIS-tagged Kaifa element nor ASCII text (with padding and a length octet of exactly 2 it gets as
    far as a two-element positional list and raises IndexError) -/
theorem own_kamstrup_frame_any_pad (hd : Header) (hh : hd.WF) (l : KamList) (h : l.WF)
    (hlen : 2 ≤ l.lenOctet) (hfirst : ∃ e rest, l.elems = e :: rest ∧ ∃ b ∈ e.obis, 128 ≤ b)
    (d : Dict) (hdec : Kamstrup.decodeFrame (encHeader hd ++ encKamList l) = .dict d) :
    stepPayload none (encHeader hd ++ encKamList l) = .ok (some 2, some d) :=
  DecOwn.fresh (pre := [_, _]) DecTotal.decoders_eq
    ⟨DecOwn.aidon_frame_rej_head hd hh _ (by rw [DecOwn.encKamList_head]; decide),
      DecOwn.kaifa_frame_rej_kam hd hh l h hlen hfirst, trivial⟩ (congrArg ofOut hdec)

/-- the same, stated for lists without padding after the version string -/
theorem own_kamstrup_frame_fresh (hd : Header) (hh : hd.WF) (l : KamList) (h : l.WF)
    (hlen : 2 ≤ l.lenOctet) (hpad : l.versionPad = 0)
    (hfirst : ∃ e rest, l.elems = e :: rest ∧ ∃ b ∈ e.obis, 128 ≤ b)
    (d : Dict) (hdec : Kamstrup.decodeFrame (encHeader hd ++ encKamList l) = .dict d) :
    stepPayload none (encHeader hd ++ encKamList l) = .ok (some 2, some d) := by
  have _ := hpad
  exact own_kamstrup_frame_any_pad hd hh l h hlen hfirst d hdec

/-- a P1 data block (printable ASCII, CR, LF) that the content decoder accepts (`hdec`) goes to the
    P1 decoder on a fresh AutoDecoder:
    the three frame decoders reject it (its ninth octet is not a date-time start) -/
theorem own_p1_fresh (block : List Nat) (hb : ∀ c ∈ block, (32 ≤ c ∧ c ≤ 126) ∨ c = 13 ∨ c = 10)
    (d : Dict) (hdec : P1Parse.decodeContent block = .ok d) :
    stepPayload none block = .ok (some 3, some d) :=
  DecOwnBody.stepPayload_text none hb hdec

/-- **C12.** `decode_message` gives the same result for an HDLC frame or DLMS message as
    `decode_message_payload` gives for its payload -/
theorem message_eq_payload_hdlc (prev : Option Nat) (f : Hdlc.Frame) (p : List Nat)
    (hp : f.payload = some p) (hne : p ≠ []) :
    stepMessage prev (.hdlc f) = stepPayload prev p := by
  rw [DecOwn.stepMessage_eq prev (.hdlc f) p hp hne, DecOwn.decodersFor_eq]
  rfl

theorem message_eq_payload_dlms (prev : Option Nat) (p : List Nat) (hne : p ≠ []) :
    stepMessage prev (.dlms p) = stepPayload prev p := by
  rw [DecOwn.stepMessage_eq prev (.dlms p) p rfl hne, DecOwn.decodersFor_eq]
  rfl

/-- and for an empty or missing payload the result is None with the memory unchanged -/
theorem message_empty_payload (prev : Option Nat) (m : Message)
    (h : m.payload = none ∨ m.payload = some []) : stepMessage prev m = .ok (prev, none) := by
  unfold stepMessage
  rcases h with h | h
  · rw [h]
  · rw [h]; rfl

end Amshan.C12
