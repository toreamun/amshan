import Amshan.Lemmas.HdlcCleanRun
import Amshan.Props.C01
/-
  C02 — every well-formed frame on a clean stream is delivered once, in order, valid and with its
  exact payload and header fields, however the stream is split into read() calls — for the frames
  in the domain of the reader's configuration (`HdlcSpec.InDomain`: all frames with octet stuffing;
  without it no flag in the header, and with abort detection no escape octet directly before a flag
  or the frame end).
-/
namespace Amshan.C02
open Amshan.Gen Amshan.Hdlc Amshan.HdlcSpec Amshan.HdlcClean

/-- what the delivered frame object shows through the accessors -/
theorem expected_observation (d : FrameDesc) (h : d.WF) :
    (expectedFrame d).isValid = true ∧
    (expectedFrame d).data = d.encode ∧
    (expectedFrame d).payload = (if d.info.isEmpty then none else some d.info) ∧
    (expectedFrame d).dest = some d.dst ∧ (expectedFrame d).src = some d.src ∧
    (expectedFrame d).control = some d.ctl ∧
    (expectedFrame d).frameLength = some d.totalLen ∧
    (expectedFrame d).formatType = some d.fmt ∧
    (expectedFrame d).segmentation = some d.seg := by
  have hlen := encode_length d
  have htl := totalLen_ge d
  have hinv := expectedFrame_inv d h
  have hff : (expectedFrame d).frameFormat = some d.format := by
    rw [expectedFrame_eq d h]
    exact frameFormat_prefix d d.encode [] (List.append_nil _) (by omega)
  -- the octets, in the shape `accessors_exact` asks for
  obtain ⟨h1, h2, eh⟩ : ∃ h1 h2, fcsLE d.head = [h1, h2] := ⟨_, _, rfl⟩
  have hshape : (expectedFrame d).data = [d.format / 256, d.format % 256] ++ d.dst ++ d.src ++
      [d.ctl, h1, h2] ++
      (if d.info.isEmpty then [] else d.info ++ fcsLE (d.head ++ fcsLE d.head ++ d.info)) := by
    show d.encode = _
    unfold FrameDesc.encode
    rw [eh]
    unfold FrameDesc.head
    split <;> simp
  obtain ⟨hdst, hsrc, hctl, -, -, -, -, hnil, -, hinfo⟩ :=
    C01.accessors_exact _ hinv _ _ _ _ _ _ _ _ hshape h.2.1 h.2.2.1
  refine ⟨?_, rfl, ?_, hdst, hsrc, hctl, ?_, ?_, ?_⟩
  · rw [Frame.isValid, Bool.and_eq_true]
    refine ⟨by simp [Frame.isGoodFfc, expectedFrame, Fcs.isGood], ?_⟩
    rw [expectedFrame_eq d h]; exact isExpectedLength_encode d h
  · cases hi : d.info.isEmpty with
    | true => exact (hnil (by rw [hi]; rfl)).1
    | false => exact (hinfo d.info _ _ (by rw [hi]; rfl)).1
  · rw [Frame.frameLength, hff, Option.map_some, format_length d h]
  · rw [Frame.formatType, hff, Option.map_some, format_type d h]
  · rw [Frame.segmentation, hff, Option.map_some, format_seg d h]
/-- **C02.** -/
theorem clean_stream_delivered (cfg : Cfg) (noise : List Nat) (fs : List (FrameDesc × Nat))
    (closing : Nat) (chunks : List (List Nat))
    (hnoise : Octets noise ∧ flag ∉ noise)
    (hfs : ∀ p ∈ fs, p.1.WF ∧ 1 ≤ p.2 ∧ InDomain cfg.stuffing cfg.abort p.1)
    (hcl : 1 ≤ closing)
    (hch : chunks.flatten = wire cfg.stuffing noise fs closing) :
    (readAll cfg Reader.init chunks).2.flatten = fs.map (fun p => expectedFrame p.1) := by
  rw [readAll_init, hch]
  exact clean_run_from cfg Core.init noise fs closing (Or.inl rfl) hnoise.2 hfs hcl

end Amshan.C02
