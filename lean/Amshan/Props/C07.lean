import Amshan.Lemmas.AidonRT
/-
  C07 — Aidon lists decode to the transmitted register values, scaled exactly.
-/
namespace Amshan.C07
open Amshan.Gen Amshan.Cosem Amshan.ListSpec

theorem name_pins : field_METER_MANUFACTURER = "meter_manufacturer" := by
  decide

/-- **C07 (bare notification body).** For every list of at most 255 well-formed elements — any OBIS codes in any
    order, text elements, clock elements, registers of every transmitted integer type over their
    whole range with any scaler −128..127 and unit — decoding yields exactly the expected dictionary:
    keyed by the common field name (or C.D.E), value = register × 10^scaler (the integer when
    scaler = 0 or register = 0, otherwise the correctly rounded double), text verbatim, clock = the
    transmitted date-time, manufacturer 'Aidon'.  Octets after the list are ignored. -/
theorem aidon_roundtrip_body (es : List AidonElem) (h : ∀ e ∈ es, e.WF) (hl : es.length ≤ 255)
    (trail : List Nat) :
    Aidon.decodeBody (encAidonBody es ++ trail) = .dict (aidonExpected es) := by
  unfold Aidon.decodeBody
  rw [AidonRT.notificationBody_enc es h trail, CosemDT.bind_ok, AidonRT.normalize_toModel]
  rfl

/-- **C07 (LLC frame content).** The same dictionary, for any LLC/APDU header (null, tagged or
    untagged date-time). -/
theorem aidon_roundtrip_frame (hd : Header) (hh : hd.WF) (es : List AidonElem) (h : ∀ e ∈ es, e.WF)
    (hl : es.length ≤ 255) (trail : List Nat) :
    Aidon.decodeFrame (encHeader hd ++ encAidonBody es ++ trail) = .dict (aidonExpected es) :=
  by rw [List.append_assoc, AidonRT.decodeFrame_eq_body hd hh, aidon_roundtrip_body es h hl trail]

/-- the value is an `int` exactly when register × 10^scaler equals the register -/
theorem scaled_int_iff (v sc : Int) : (∃ z, scaledValue v sc = .int z) ↔ (sc = 0 ∨ v = 0) :=
  AidonRT.scaled_int_iff v sc

example : (AidonElem.reg [1, 0, 31, 7, 0, 255] .s16 (-57) (-1) 33).WF := by unfold AidonElem.WF; decide

end Amshan.C07
