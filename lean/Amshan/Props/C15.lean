import Amshan.Props.C12
import Amshan.Lemmas.DecTotal
/-
  C15 — AutoDecoder returns a dictionary or None for every input, and terminates.
  In the model every decoder is a total function into `Except PyExc Dict`; "no exception escapes"
  is that `step` never returns `.error`, which holds because the `except` clause read from the source
  catches every exception class (`C12.all_caught`).  Termination: every loop of the source is
  modelled with explicit fuel; the theorems show the fuel supplied is never what stops a loop.
-/
namespace Amshan.C15
open Amshan.Gen Amshan.Cosem Amshan.Dec

/-- **C15.** `decode_message_payload` returns a dictionary or None for every byte string and every
    remembered decoder. -/
theorem no_escape_payload (prev : Option Nat) (p : List Nat) : ∃ r, stepPayload prev p = .ok r := by
  exact C12.step_total decoders caught DecTotal.caught_all prev p

/-- **C15.** …and so does `decode_message`. -/
theorem no_escape_message (prev : Option Nat) (m : Message) : ∃ r, stepMessage prev m = .ok r := by
  unfold stepMessage
  cases m.payload with
  | none => exact ⟨_, rfl⟩
  | some p =>
    simp only
    split
    · exact ⟨_, rfl⟩
    · exact C12.step_total _ _ (fun e => (C12.all_caught e).2) prev p

/-- all seven names of the source's table resolve to a decoder (their order: `C12.decoder_order_pin`) -/
theorem decoders_length : decoders.length = 7 := by
  rw [DecTotal.decoders_eq]; rfl

/-- **C15 (termination of the P1 parser).** For every input, including unbalanced parentheses and
    trailing garbage on a line, parsing never ends by exhausting the model's fuel (`overflowError`,
    which Model/P1Parse.lean raises for nothing else); and the number of loop iterations is linear in
    the input length. -/
theorem p1_parse_terminates (data : List Nat) : P1Parse.parseContent data ≠ .error .overflowError := by
  exact P1ParseRT.parseContent_ne_overflow data

theorem p1_parse_linear (data : List Nat) (items : List P1Parse.DataSet) (iters : Nat)
    (h : P1Parse.parseContent data = .ok (items, iters)) : iters ≤ 2 * data.length + 2 := by
  have := P1ParseRT.parseContent_cost data items iters h
  omega

/-- **C15 (GreedyRange terminates).** Giving the greedy loops more fuel than `input length + 1` never
    changes the result, i.e. the fuel is never what stops them: every iteration consumes input. -/
theorem kamstrup_greedy_fuel (s : List Nat) (k : Nat) :
    Kamstrup.greedy (s.length + 1 + k) s = Kamstrup.greedy (s.length + 1) s := by
  exact KamstrupRT.kamstrup_isGreedy.indep DecTotal.kamstrup_element_uses _ _ s (by omega) (by omega)

theorem kaifa_greedy_fuel (s : List Nat) (k : Nat) :
    Kaifa.greedyObis (s.length + 1 + k) s = Kaifa.greedyObis (s.length + 1) s := by
  exact KaifaRT.kaifa_isGreedy.indep (DecTotal.kaifa_obisElement_uses.mono (by omega)) _ _ s (by omega) (by omega)

/-- the number of elements a greedy loop returns is at most the number of input octets -/
theorem kamstrup_greedy_count (s : List Nat) (es : List Kamstrup.Element) (r : List Nat)
    (h : Kamstrup.greedy (s.length + 1) s = .ok es r) : es.length ≤ s.length := by
  have := DecTotal.kamstrup_greedy_count _ _ _ _ h
  omega

end Amshan.C15
