import Amshan.Props.C13
import Amshan.Props.C13Clean
import Amshan.Props.C02Witness
import Amshan.Props.C05Witness
/-
  C13 — non-vacuity witnesses with the two CONCRETE candidate readers (`hdlcRd cfg`, `p1Rd`) on the clean
  streams of Props/C02Witness (noise + three REAL HDLC frames of tests/test_hdlc.py, one of them header-only)
  and Props/C05Witness (tail of a readout + four readouts).
-/
namespace Amshan.C13.Witness
set_option linter.defProp false
open Amshan.Gen Amshan.Proto Amshan.ProtoSpec Amshan.Hdlc Amshan.HdlcSpec Amshan.P1Spec

/-! ### helper: the P1 reader returns nothing (and stays new) on chunks without a start character '/' -/

def dropWhile_notStart (l : List Nat) (h : 47 ∉ l) : l.dropWhile P1.notStart = [] := by
  induction l with
  | nil => rfl
  | cons a t ih =>
    have ha : a ≠ 47 := fun e => h (by simp [e])
    have ht : 47 ∉ t := fun m => h (by simp [m])
    have : P1.notStart a = true := by
      simp only [P1.notStart, bne_iff_ne, ne_eq]
      exact ha
    rw [List.dropWhile_cons, if_pos this]
    exact ih ht

def p1_read_quiet (chunk : List Nat) (h : 47 ∉ chunk) : P1.read P1.Reader.init chunk = .ok (P1.Reader.init, []) := by
  have hd := dropWhile_notStart chunk h
  have hg : ¬ (0 > p1Guard) := by decide
  unfold P1.read
  simp only [P1.Reader.init, P1.Buf.empty, P1.Buf.trimToPos, P1.Buf.extend, P1.Buf.trimToFlagOrEnd,
    List.length_nil, Nat.add_zero, hg, decide_false, Bool.false_eq_true, if_false, if_true, List.nil_append, hd]
  rw [P1.loop]
  simp [P1.Buf.pop]

def p1_readAll_quiet (chunks : List (List Nat)) (h : 47 ∉ chunks.flatten) :
    P1.readAll P1.Reader.init chunks = .ok (P1.Reader.init, chunks.map fun _ => []) := by
  induction chunks with
  | nil => rfl
  | cons ch chs ih =>
    have h1 : 47 ∉ ch := fun m => h (by simp [m])
    have h2 : 47 ∉ chs.flatten := fun m => h (by simp [m])
    simp only [P1.readAll, p1_read_quiet ch h1, ih h2, List.map_cons]

def p1_quiet (chunks : List (List Nat)) (h : 47 ∉ chunks.flatten) : Quiet p1Rd chunks := by
  intro m hm
  rw [p1Rd_feedAll_flatten _ chunks _ (p1_readAll_quiet chunks h)] at hm
  have : (chunks.map fun _ => ([] : List P1.Readout)).flatten = [] := by
    induction chunks with
    | nil => rfl
    | cons _ t ih => simpa using ih (fun m => h (by simp [m]))
  rw [this] at hm
  cases hm

/-! ### `clean_hdlc`, `clean_hdlc_two_candidates` : the hypotheses of C02 plus `Quiet p1Rd chunks` -/

open C02.Witness in
/-- the HDLC wire (every configuration) contains no '/' -/
def noSlash (cfg : Cfg) : 47 ∉ (split (wire cfg.stuffing noise frames 2)).flatten := by
  rw [split_flatten]
  obtain ⟨st, ab⟩ := cfg
  cases st <;> cases ab <;> decide +kernel

open C02.Witness in
/-- all hypotheses hold; the queue receives the non-empty payloads of the two frames that have one (the
    header-only frame contributes nothing), for the single candidate and for both candidate orders -/
example (cfg : Cfg) :
    let chunks := split (wire cfg.stuffing noise frames 2)
    Quiet p1Rd chunks ∧
    (runAll Kind.payload (State.init [hdlcRd cfg]) chunks).2 = [Item.payload fKaifa.info, Item.payload fAidon.info] ∧
    (runAll Kind.payload (State.init [hdlcRd cfg, p1Rd]) chunks).2 = [Item.payload fKaifa.info, Item.payload fAidon.info] ∧
    (runAll Kind.payload (State.init [p1Rd, hdlcRd cfg]) chunks).2 = [Item.payload fKaifa.info, Item.payload fAidon.info] := by
  intro chunks
  have hq : Quiet p1Rd chunks := p1_quiet chunks (noSlash cfg)
  have h1 := clean_hdlc cfg noise frames 2 chunks hnoise (hframes cfg) (by decide) (split_flatten _)
  have h2 := clean_hdlc_two_candidates cfg noise frames 2 chunks hnoise (hframes cfg) (by decide) (split_flatten _) hq
  have he : (frames.filterMap fun p => if p.1.info.isEmpty then none else some (Item.payload p.1.info)) =
      [Item.payload fKaifa.info, Item.payload fAidon.info] := by decide
  rw [he] at h1 h2
  exact ⟨hq, h1, h2.1, h2.2⟩

/-! ### `quiet_candidate_irrelevant` : `Quiet q chunks` — same instance, message protocol -/

open C02.Witness in
example : let chunks := split (wire true noise frames 2)
    (runAll Kind.message (State.init [p1Rd, hdlcRd ⟨true, true⟩]) chunks).2 =
      (runAll Kind.message (State.init [hdlcRd ⟨true, true⟩]) chunks).2 :=
  (quiet_candidate_irrelevant Kind.message (hdlcRd ⟨true, true⟩) p1Rd _ (p1_quiet _ (noSlash ⟨true, true⟩))).2

/-! ### `single_candidate` : every message the reader reports is valid — the HDLC candidate on the clean stream -/

open C02.Witness in
example : let chunks := split (wire false noise frames 2)
    let r := hdlcRd ⟨false, true⟩
    (∀ m ∈ (r.feedAll chunks).flatten, m.valid = true) ∧
    (runAll Kind.payload (State.init [r]) chunks).2 =
      (((r.feedAll chunks).flatten).filterMap goodPayload).map Item.payload := by
  intro chunks r
  have hs : (r.feedAll chunks).flatten =
      [expectedFrame fKaifa, expectedFrame fAidon, expectedFrame fEmpty].map frameMsg := by
    rw [hdlcRd_feedAll ⟨false, true⟩ chunks,
      C02.clean_stream_delivered ⟨false, true⟩ noise frames 2 chunks hnoise (hframes ⟨false, true⟩) (by decide)
        (split_flatten _)]
    rfl
  have hv : ∀ m ∈ (r.feedAll chunks).flatten, m.valid = true := by
    rw [hs]; decide +kernel
  exact ⟨hv, single_candidate r chunks hv⟩

/-! ### `clean_p1` : the hypotheses of C05;  `hdlc_quiet_without_flag` : no '~' in the stream -/

/-- the checksum digits are hex digits, never '~': that a stream of readouts has no flag octet is seen without
    evaluating their CRCs -/
def flag_not_mem_encode (d : ReadoutDesc) (h : flagOctet ∉ d.body) : flagOctet ∉ d.encode := by
  have hx : ∀ n, flagOctet ≠ hexUpper (n % 16) ∧ flagOctet ≠ hexLower (n % 16) := fun n => by
    simp only [hexUpper, hexLower, flagOctet]; constructor <;> split <;> omega
  rcases hc : d.checksum with _ | _ | _ <;> simp [ReadoutDesc.encode, hc, h, hex4, hx] <;> decide

open C05.Witness in
example : (runAll Kind.payload (State.init [p1Rd]) (chunksOf 100 90 stream)).2 =
      ds.map (fun d => Item.payload d.payload) ∧
    flagOctet ∉ (chunksOf 100 90 stream).flatten ∧
    (∀ cfg, Quiet (hdlcRd cfg) (chunksOf 100 90 stream)) ∧
    (runAll Kind.payload (State.init [hdlcRd ⟨true, true⟩, p1Rd]) (chunksOf 100 90 stream)).2 =
      ds.map (fun d => Item.payload d.payload) := by
  have h1 := clean_p1 tail ds (chunksOf 100 90 stream) htail hds (chunksOf_flatten 100 90 _)
  -- no payload is empty, so nothing is filtered out (comparing the payloads themselves would evaluate them)
  have hp : dS.payload ≠ [] ∧ dB.payload ≠ [] ∧ dLong.payload ≠ [] := by decide +kernel
  have he : (ds.filterMap fun d => if d.payload.isEmpty then none else some (Item.payload d.payload)) =
      ds.map (fun d => Item.payload d.payload) := by simp [ds, hp]
  have hf : flagOctet ∉ (chunksOf 100 90 stream).flatten := by
    have hb : flagOctet ∉ tail ∧ ∀ d ∈ ds, flagOctet ∉ d.body := by decide +kernel
    rw [chunksOf_flatten, stream, List.mem_append, List.mem_flatMap]
    rintro (h | ⟨d, hd, h⟩)
    · exact hb.1 h
    · exact flag_not_mem_encode d (hb.2 d hd) h
  have hq : ∀ cfg, Quiet (hdlcRd cfg) (chunksOf 100 90 stream) := fun cfg => hdlc_quiet_without_flag cfg _ hf
  rw [he] at h1
  refine ⟨h1, hf, hq, ?_⟩
  rw [(quiet_candidate_irrelevant Kind.payload p1Rd (hdlcRd ⟨true, true⟩) _ (hq _)).2]
  exact h1

end Amshan.C13.Witness
