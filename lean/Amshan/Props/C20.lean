import Amshan.Lemmas.Obis
/-
  C20 — OBIS codes parse into their value groups and format back losslessly.
-/
namespace Amshan.C20
open Amshan.Gen Amshan.Obis Amshan.ObisSpec

/-- pins: the deterministic matcher was written for exactly these pattern texts -/
theorem pattern_pins :
    obisStandardPatternSrc = "(?P<AS>\\d{0,3})\\.(?P<BS>\\d{0,3})\\.(?P<CS>\\d{0,3})\\.(?P<DS>\\d{0,3})\\.(?P<ES>\\d{0,3})\\.(?P<FS>\\d{0,3})?" ∧
    obisReducedPatternSrc = "((?P<AR>\\d{0,3}){1}-)?((?P<BR>\\d{0,3}){1}:)?((?P<CR>\\d{0,3})\\.)(?P<DR>\\d{0,3})?(\\.(?P<ER>\\d{0,3}))?(\\*(?P<FR>\\d{0,3}))?" ∧
    obisBothPatternSrc = "(?P<STANDARD>" ++ obisStandardPatternSrc ++ ")|(?P<REDUCED>" ++ obisReducedPatternSrc ++ ")" ∧
    obisCompiledPatternSrc = obisBothPatternSrc := by
  decide +kernel

/-- **C20 (reduced form).** Every code written `[A-][B:]C.D[.E][*F]` with groups 0..255, any of the
    16 presence patterns, parses into exactly those groups (an optional group written as 0 is `some 0`). -/
theorem parse_reduced (a b : Option Nat) (c d : Nat) (e f : Option Nat)
    (ha : optLe a 255) (hb : optLe b 255) (hc : c ≤ 255) (hd : d ≤ 255) (he : optLe e 255)
    (hf : optLe f 255) :
    parse (reduced a b c d e f) = .ok (a, b, c, d, e, f) := by
  rw [reduced_eq_redText]
  unfold parse
  rw [reMatch_redText (optGroup_map_dec a ha) (optGroup_map_dec b hb)
    (dec_group c (by omega)) (dec_group d (by omega)) (optGroup_map_dec e he)
    (optGroup_map_dec f hf)]
  simp only [optInt_map_dec, intOfDigits_dec c (by omega), intOfDigits_dec d (by omega), ha, hb,
    he, hf, bind, Except.bind, pure, Except.pure, if_true]

/-- **C20 (six-part dotted form).** -/
theorem parse_standard (a b c d e f : Nat) (ha : a ≤ 255) (hb : b ≤ 255) (hc : c ≤ 255)
    (hd : d ≤ 255) (he : e ≤ 255) (hf : f ≤ 255) :
    parse (standard a b c d e f) = .ok (some a, some b, c, d, some e, some f) :=
  Obis.parse_standard a b c d e f ha hb hc hd he hf

/-- **C20.** Strings that contain no digit-dot-digit sequence at all raise ValueError. -/
theorem no_ddd_raises (s : List Nat) (h : hasDigitDotDigit s = false) :
    parse s = .error .valueError := by
  cases hp : parse s with
  | error e => rw [(raisesVE_parse s).error hp]
  | ok g =>
    have := parse_ok_hasDDD hp
    rw [h] at this
    cases this

/-- parsing raises nothing but ValueError -/
theorem parse_error_is_valueError (s : List Nat) (e : PyExc) (h : parse s = .error e) :
    e = .valueError :=
  (raisesVE_parse s).error h

/-- **C20.** Two Obis objects are equal exactly when their groups are equal; equal objects hash
    equally; comparison with a string parses the string first (and is False when it does not parse). -/
theorem eq_iff (g h : Groups) : eqObis g h = true ↔ g = h := by
  simp [eqObis]

theorem hash_congr (g h : Groups) (e : eqObis g h = true) : hashKey g = hashKey h := by
  have := (eq_iff g h).1 e
  rw [this]

theorem eq_string_parses_first (g : Groups) (s : List Nat) :
    eqStr g s = true ↔ parse s = .ok g := by
  unfold eqStr
  cases hp : parse s with
  | error e => simp
  | ok h =>
    simp only [decide_eq_true_eq, Except.ok.injEq]
    exact eq_comm

/-- **C20.** The C.D.E string is made of groups C, D and E. -/
theorem cde_exact (a b : Option Nat) (c d e : Nat) (f : Option Nat)
    (hc : c ≤ 255) (hd : d ≤ 255) (he : e ≤ 255) :
    cdeStr (a, b, c, d, some e, f) = dec c ++ [46] ++ dec d ++ [46] ++ dec e := by
  simp only [cdeStr, showOpt, showNat_eq_dec c (by omega), showNat_eq_dec d (by omega),
    showNat_eq_dec e (by omega)]

def absentOrNonZero (x : Option Nat) : Prop := match x with | some v => v ≠ 0 | none => True

theorem showNat_eq_dec' (n : Nat) (h : n ≤ 255) : showNat n = dec n :=
  showNat_eq_dec n (by omega)

/-- an optional group that is absent or non-zero is written exactly when it is there -/
theorem truthy_showOpt {α : Type} (x : Option Nat) (h : optLe x 255 ∧ absentOrNonZero x)
    (k : List Nat → α) (z : α) :
    (if truthy x then k (showOpt x) else z) =
      match (generalizing := false) x with | some v => k (dec v) | none => z := by
  cases x with
  | none => rfl
  | some v =>
    have hv : v ≠ 0 := h.2
    simp only [truthy, bne_iff_ne, ne_eq, hv, not_false_eq_true, if_true, showOpt, showNat_eq_dec' v h.1]

theorem toReducedStr_eq (a b : Option Nat) (c d : Nat) (e f : Option Nat)
    (ha : optLe a 255 ∧ absentOrNonZero a) (hb : optLe b 255 ∧ absentOrNonZero b)
    (hc : c ≤ 255) (hd : d ≤ 255)
    (he : optLe e 255 ∧ absentOrNonZero e) (hf : optLe f 255 ∧ absentOrNonZero f) :
    toReducedStr (a, b, c, d, e, f) = reduced a b c d e f := by
  unfold toReducedStr reduced
  simp only [truthy_showOpt a ha (· ++ [45]) [], truthy_showOpt b hb (· ++ [58]) [],
    truthy_showOpt e he ([46] ++ ·) [], truthy_showOpt f hf ([42] ++ ·) [], showNat_eq_dec' c hc,
    showNat_eq_dec' d hd]
  rfl

/-- **C20 (round trip).** Formatting in reduced form and parsing the result gives back the same
    groups (each 0..255) whenever the optional groups are absent or non-zero. -/
theorem roundtrip (a b : Option Nat) (c d : Nat) (e f : Option Nat)
    (ha : optLe a 255 ∧ absentOrNonZero a) (hb : optLe b 255 ∧ absentOrNonZero b)
    (hc : c ≤ 255) (hd : d ≤ 255)
    (he : optLe e 255 ∧ absentOrNonZero e) (hf : optLe f 255 ∧ absentOrNonZero f) :
    parse (toReducedStr (a, b, c, d, e, f)) = .ok (a, b, c, d, e, f) := by
  rw [toReducedStr_eq a b c d e f ha hb hc hd he hf]
  exact parse_reduced a b c d e f ha.1 hb.1 hc hd he.1 hf.1

/-- and `str(obis)` parses back too (six-part form when all groups are non-zero) -/
theorem roundtrip_str (a b : Option Nat) (c d : Nat) (e f : Option Nat)
    (ha : optLe a 255 ∧ absentOrNonZero a) (hb : optLe b 255 ∧ absentOrNonZero b)
    (hc : c ≤ 255) (hd : d ≤ 255)
    (he : optLe e 255 ∧ absentOrNonZero e) (hf : optLe f 255 ∧ absentOrNonZero f) :
    parse (toStr (a, b, c, d, e, f)) = .ok (a, b, c, d, e, f) := by
  unfold toStr
  simp only
  split
  · rename_i hall
    simp only [Bool.and_eq_true, bne_iff_ne, ne_eq] at hall
    obtain ⟨⟨⟨⟨⟨hta, htb⟩, _⟩, _⟩, hte⟩, htf⟩ := hall
    obtain ⟨a, rfl⟩ := truthy_some hta
    obtain ⟨b, rfl⟩ := truthy_some htb
    obtain ⟨e, rfl⟩ := truthy_some hte
    obtain ⟨f, rfl⟩ := truthy_some htf
    simpa only [standard, showOpt, showNat_eq_dec' _ hc, showNat_eq_dec' _ hd, showNat_eq_dec' a ha.1,
      showNat_eq_dec' b hb.1, showNat_eq_dec' e he.1, showNat_eq_dec' f hf.1]
      using parse_standard a b c d e f ha.1 hb.1 hc hd he.1 hf.1
  · exact roundtrip a b c d e f ha hb hc hd he hf

/-- non-vacuity -/
example : parse (reduced (some 1) (some 0) 1 8 none (some 255)) = .ok (some 1, some 0, 1, 8, none, some 255) := by
  rfl

end Amshan.C20
