import Amshan.Lemmas.P1Handle
/-
  C14 (P1 part) — read() of the P1 reader never raises, for every byte sequence and chunking, and
  every readout it returns answers is_valid / payload / as_bytes without raising.
  The model uses partial primitives (`decodeAscii`, `intBase16`, `line[0]`, `DataReadout(...)`)
  that do fail on some inputs; the theorems show every call site is guarded.
-/
namespace Amshan.C14
open Amshan.Gen Amshan.P1 Amshan.Py

/-- the primitives are genuinely partial -/
example : decodeAscii [47, 200] = .error .unicodeError := by decide
example : intBase16 [122, 122] = .error .valueError := by decide
example : Readout.make [65] = .error .valueError := by decide

/-- **C14 (P1 reader).** From a new reader, no sequence of chunks makes `read()` raise. -/
theorem p1_readAll_total (chunks : List (List Nat)) :
    ∃ r outs, readAll Reader.init chunks = .ok (r, outs) := by
  obtain ⟨r, outs, h, _⟩ := readAll_BI chunks Reader.init BI_init
  exact ⟨r, outs, h⟩

theorem p1_read_total (r : Reader) (hr : Reachable r) (chunk : List Nat) :
    ∃ r' outs, read r chunk = .ok (r', outs) := by
  obtain ⟨r', outs, h, _⟩ := read_BI r chunk (reachable_BI hr)
  exact ⟨r', outs, h⟩

/-- every readout answers `is_valid` without raising -/
theorem p1_isValid_total (r : Readout) : ∃ b, r.isValid = .ok b :=
  P1L.isValid_total r

end Amshan.C14
