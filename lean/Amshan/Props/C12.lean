import Amshan.Lemmas.Auto
/-
  C12 (generic part) — AutoDecoder picks a decoder that accepts the message, across any history.
  Generic in the decoder functions; `hc` = the `except` clause catches every exception class a
  decoder can raise (`all_caught` below, re-proved against the regenerated clause on every run).
-/
namespace Amshan.C12
open Amshan.Gen Amshan.Auto

variable {α β : Type}

def accepts (d : Decoder α β) (p : α) : Bool :=
  match d p with
  | .ok _ => true
  | .error _ => false

theorem accepts_eq (d : Decoder α β) (p : α) : accepts d p = acc d p := rfl

/-- the `except` clauses of both methods, as read from the source, catch every exception class -/
theorem all_caught (e : PyExc) : caughtBy caughtPayload e = true ∧ caughtBy caughtMessage e = true := by
  cases e <;> decide

theorem decoder_order_pin : decoderOrder =
    ["Aidon_frame", "Kaifa_frame", "Kamstrup_frame", "P1", "Aidon_notification_body",
     "Kaifa_notification_body", "Kamstrup_notification_body"] := by decide

/-- no exception escapes and a result is always produced -/
theorem step_total (decs : List (Decoder α β)) (caught : PyExc → Bool) (hc : ∀ e, caught e = true)
    (prev : Option Nat) (p : α) : ∃ r, step decs caught prev p = .ok r :=
  Auto.step_total decs caught hc prev p

/-- **C12.** the result is None exactly when no individual decoder accepts the payload -/
theorem none_iff_all_reject (decs : List (Decoder α β)) (caught : PyExc → Bool)
    (hc : ∀ e, caught e = true) (prev : Option Nat) (p : α) :
    (∃ prev', step decs caught prev p = .ok (prev', none)) ↔ ∀ d ∈ decs, accepts d p = false :=
  ⟨fun ⟨_, h⟩ => all_reject_of_none h, fun h => ⟨prev, step_junk decs caught hc prev p h⟩⟩

/-- **C12.** otherwise it equals the result of a decoder that accepts it, and the remembered index
    names that decoder -/
theorem result_from_accepting (decs : List (Decoder α β)) (caught : PyExc → Bool)
    (prev : Option Nat) (p : α) (idx : Option Nat) (v : β)
    (h : step decs caught prev p = .ok (idx, some v)) :
    ∃ i d, idx = some i ∧ decs[i]? = some d ∧ d p = .ok v := by
  obtain ⟨_, _, _, hidx, d, hd, hv⟩ := step_ok h
  exact ⟨_, d, hidx, hd, hv⟩

/-- **C12.** the most recently successful decoder is used whenever that one accepts the payload -/
theorem prefers_previous (decs : List (Decoder α β)) (caught : PyExc → Bool) (i : Nat)
    (d : Decoder α β) (p : α) (v : β) (hi : decs[i]? = some d) (hv : d p = .ok v) :
    step decs caught (some i) p = .ok (some i, some v) :=
  step_remembered decs caught hi hv

/-- the decoder chosen is the first accepting one in cyclic order starting at the remembered index -/
theorem first_in_cyclic_order (decs : List (Decoder α β)) (caught : PyExc → Bool)
    (hc : ∀ e, caught e = true) (prev : Option Nat) (p : α) (i : Nat) (v : β)
    (h : step decs caught prev p = .ok (some i, some v)) :
    ∃ j, j < decs.length ∧ i = (j + prev.getD 0) % decs.length ∧
      ∀ j', j' < j → ∀ d, decs[(j' + prev.getD 0) % decs.length]? = some d → accepts d p = false := by
  have _ := hc
  obtain ⟨j, hrej, hj, hi, _⟩ := step_ok h
  exact ⟨j, hj, Option.some.inj hi, hrej⟩

/-- **C12.** `previous_success_decoder` is unchanged by payloads nobody accepts -/
theorem previous_unchanged_on_none (decs : List (Decoder α β)) (caught : PyExc → Bool)
    (prev prev' : Option Nat) (p : α) (h : step decs caught prev p = .ok (prev', none)) :
    prev' = prev := by
  obtain ⟨_, _, _, h⟩ := step_ok h
  exact h

/-- **C12 (histories).** One more message after any history: a None result leaves the remembered
    decoder as the history left it, a result `v` makes it the decoder that produced `v`.  (So, message
    by message, the remembered decoder is the one that produced the latest non-None result, and the
    initial value if there was none.) -/
theorem previous_names_last_success (decs : List (Decoder α β)) (caught : PyExc → Bool)
    (prev : Option Nat) (ps : List α) (p : α) (prev' : Option Nat) (rs : List (Option β))
    (h : runHistory decs caught prev (ps ++ [p]) = .ok (prev', rs)) :
    ∃ prevMid rsInit rLast, runHistory decs caught prev ps = .ok (prevMid, rsInit) ∧
      step decs caught prevMid p = .ok (prev', rLast) ∧ rs = rsInit ++ [rLast] ∧
      (rLast = none → prev' = prevMid) ∧
      (∀ v, rLast = some v → ∃ i d, prev' = some i ∧ decs[i]? = some d ∧ d p = .ok v) := by
  rw [runHistory_snoc] at h
  split at h
  · cases h
  · rename_i prevMid rsInit hps
    split at h
    · cases h
    · rename_i _ rLast hst
      cases h
      exact ⟨prevMid, rsInit, rLast, hps, hst, rfl,
        fun hn => previous_unchanged_on_none decs caught prevMid prev' p (hn ▸ hst),
        fun v hv => result_from_accepting decs caught prevMid p prev' v (hv ▸ hst)⟩

end Amshan.C12
