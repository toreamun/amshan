import Amshan.Lemmas.HdlcFrame
/-
  C01 (validity and exact fields) — a frame is reported valid exactly when it is intact, and the
  accessors return exactly the corresponding octets.  (Framing: Props/C01Framing.lean.)
-/
namespace Amshan.C01
open Amshan.Gen Amshan.Hdlc Amshan.HdlcSpec

theorem init_inv : CoreInv Core.init :=
  CoreInv_init

/-- every frame the reader returns, for every input and from every invariant-satisfying state,
    satisfies the frame invariant (running FCS register = FCS of the octets, cached control position
    = the position the address fields determine). -/
theorem run_frames_inv (cfg : Cfg) (c : Core) (inp : List Nat) (hc : CoreInv c) (hi : Octets inp) :
    (∀ f ∈ (run cfg c inp).2, FrameInv f) ∧ CoreInv (run cfg c inp).1 :=
  run_inv cfg c inp hc hi

/-- **C01 (validity).** For a frame object as the reader builds it (`FrameInv`), `is_valid` is true
    exactly when the length field equals the octet count and the last two octets are the RFC 1662
    FCS-16 of the preceding ones, low octet first. -/
theorem valid_iff_intact (f : Frame) (h : FrameInv f) : f.isValid = true ↔ Intact f.data := by
  obtain ⟨hcrc, _, hoct⟩ := h
  simp only [Frame.isValid, Bool.and_eq_true]
  match hd : f.data with
  | [] =>
    simp [Intact, Frame.isExpectedLength, Frame.frameLength, Frame.frameFormat, hd]
  | [_] =>
    simp [Intact, Frame.isExpectedLength, Frame.frameLength, Frame.frameFormat, hd]
  | a :: b :: t =>
    have hlen : f.isExpectedLength = true ↔ ((a <<< 8 ||| b) &&& 0x7FF) = (a :: b :: t).length := by
      simp only [Frame.isExpectedLength, Frame.frameLength, Frame.frameFormat_of f a b t hd,
        Option.map_some, Frame.len, hd, beq_iff_eq, Option.some.injEq]
    have hfcs : f.isGoodFfc = true ↔ ∃ m t0 t1, a :: b :: t = m ++ [t0, t1] ∧
        t0 = Rfc1662.fcs16 m % 256 ∧ t1 = Rfc1662.fcs16 m / 256 := by
      unfold Frame.isGoodFfc
      rw [hcrc, hd]
      exact isGood_iff_trailer _ (hd ▸ hoct) (Nat.le_add_left 2 _)
    unfold Intact
    simp only
    rw [hfcs, hlen]
    exact And.comm

/-- every returned frame has a complete header (two address fields, control, HCS) -/
theorem returned_has_hcs (cfg : Cfg) (c : Core) (inp : List Nat) :
    ∀ f ∈ (run cfg c inp).2, f.hcs.isSome = true := by
  intro f hf
  exact ((run_preserves (P := fun _ => True) (ok := fun _ => True) cfg (fun _ => trivial)
    (fun _ _ => trivial) (fun _ _ _ _ _ => trivial) (fun _ _ _ _ _ _ => trivial) c inp trivial
    (fun _ _ => trivial)).2 f hf).1

/-- a frame with a complete header decomposes into format, destination, source, control, HCS, rest -/
theorem header_shape (f : Frame) (h : FrameInv f) (hh : f.hcs.isSome = true) :
    ∃ a b dst src ctl h1 h2 rest,
      f.data = [a, b] ++ dst ++ src ++ [ctl, h1, h2] ++ rest ∧ addrWF dst = true ∧ addrWF src = true := by
  obtain ⟨_, hctl, _⟩ := h
  obtain ⟨p, hp, hl⟩ := (Frame.hcs_isSome_iff f).mp hh
  rw [hp] at hctl
  obtain ⟨a, b, dst, src, rest, e, w1, w2, hpe⟩ := controlPos_some f.data p hctl.symm
  have hlen : rest.length ≥ 3 := by
    simp only [Frame.len, e, List.length_append, List.length_cons, List.length_nil] at hl
    omega
  match rest, hlen with
  | ctl :: h1 :: h2 :: rest', _ =>
    exact ⟨a, b, dst, src, ctl, h1, h2, rest', by rw [e]; simp, w1, w2⟩

/-- **C01 (exact fields).** For a frame of that shape every accessor returns exactly the corresponding
    octets. -/
theorem accessors_exact (f : Frame) (h : FrameInv f) (a b : Nat) (dst src : List Nat)
    (ctl h1 h2 : Nat) (rest : List Nat)
    (hd : f.data = [a, b] ++ dst ++ src ++ [ctl, h1, h2] ++ rest)
    (hdst : addrWF dst = true) (hsrc : addrWF src = true) :
    f.dest = some dst ∧ f.src = some src ∧ f.control = some ctl ∧ f.hcs = some (h1 * 256 + h2) ∧
    f.infoPos = some (2 + dst.length + src.length + 3) ∧
    f.frameLength = some ((a * 256 + b) % 2048) ∧
    f.formatType = some (a / 16 % 16) ∧
    (rest = [] → f.payload = none ∧ f.fcsField = some (h1 * 256 + h2)) ∧
    (∀ x, rest = [x] → f.payload = some [] ∧ f.fcsField = some (h2 * 256 + x)) ∧
    (∀ info f1 f2, rest = info ++ [f1, f2] → f.payload = some info ∧ f.fcsField = some (f1 * 256 + f2)) := by
  obtain ⟨hcrc, hctl, hoct⟩ := h
  have hp : f.ctlPos = some (2 + dst.length + src.length) := by
    rw [hctl, hd, List.append_assoc _ _ rest]
    exact controlPos_of_shape a b dst src _ hdst hsrc
  have hmem : ∀ x, x ∈ f.data → x < 256 := hoct
  have hb : b < 256 := hmem b (by rw [hd]; simp)
  have hh2 : h2 < 256 := hmem h2 (by rw [hd]; simp)
  have hpre : ([a, b] ++ dst ++ src).length = 2 + dst.length + src.length := by
    simp only [List.length_append, List.length_cons, List.length_nil]
  have hd' : f.data = ([a, b] ++ dst ++ src) ++ ctl :: h1 :: h2 :: rest := by rw [hd]; simp
  have hff : f.frameFormat = some (a * 256 + b) := by
    rw [Frame.frameFormat_of f a b (dst ++ src ++ [ctl, h1, h2] ++ rest) (by rw [hd]; simp),
      shl8_or a b hb]
  refine ⟨?_, ?_, ?_, ?_, ?_, ?_, ?_, ?_, ?_, ?_⟩
  · unfold Frame.dest
    rw [hd, List.append_assoc _ _ rest, List.append_assoc _ src]
    exact destAddr_of_shape a b dst _ hdst
  · unfold Frame.src
    rw [hd, List.append_assoc _ _ rest]
    exact srcAddr_of_shape a b dst src _ hdst hsrc
  · exact Frame.control_of f _ _ ctl _ hp hd' hpre
  · rw [Frame.hcs_of f _ _ ctl h1 h2 rest hp hd' hpre, shl8_or h1 h2 hh2]
  · simp only [Frame.infoPos, hp, Option.map_some]
  · simp only [Frame.frameLength, hff, Option.map_some, and_mask11]
  · simp only [Frame.formatType, hff, Option.map_some, fmt_type a b hb]
  · intro hr
    subst hr
    have hlen : f.len = 2 + dst.length + src.length + 3 := by
      simp only [Frame.len, hd, List.length_append, List.length_cons, List.length_nil]
    refine ⟨Frame.payload_none_of f _ hp (by omega), ?_⟩
    rw [Frame.fcsField_of f _ ([a, b] ++ dst ++ src ++ [ctl]) h1 h2 hp (by rw [hd]; simp)
      (by simp only [List.length_append, List.length_cons, List.length_nil]; omega),
      shl8_or h1 h2 hh2]
  · intro x hr
    subst hr
    have hx : x < 256 := hmem x (by rw [hd]; simp)
    have hlen : f.len = 2 + dst.length + src.length + 4 := by
      simp only [Frame.len, hd, List.length_append, List.length_cons, List.length_nil]
    refine ⟨Frame.payload_nil_of f _ hp hlen, ?_⟩
    rw [Frame.fcsField_of f _ ([a, b] ++ dst ++ src ++ [ctl, h1]) h2 x hp (by rw [hd]; simp)
      (by simp only [List.length_append, List.length_cons, List.length_nil]; omega),
      shl8_or h2 x hx]
  · intro info f1 f2 hr
    subst hr
    have hf2 : f2 < 256 := hmem f2 (by rw [hd]; simp)
    refine ⟨Frame.payload_of f _ ([a, b] ++ dst ++ src ++ [ctl, h1, h2]) info f1 f2 hp
      (by rw [hd]; simp) (by simp only [List.length_append, List.length_cons, List.length_nil]), ?_⟩
    rw [Frame.fcsField_of f _ ([a, b] ++ dst ++ src ++ [ctl, h1, h2] ++ info) f1 f2 hp
      (by rw [hd]; simp)
      (by simp only [List.length_append, List.length_cons, List.length_nil]; omega),
      shl8_or f1 f2 hf2]

/-- `append` adds one octet to the frame object -/
example : (Frame.empty.append 0xA0).len = 1 := by decide

end Amshan.C01
