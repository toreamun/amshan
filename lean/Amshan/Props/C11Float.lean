import Amshan.Lemmas.FloatBound
/-
  Floating-point facts used by C08, C09 and C11, proved about the exact binary64 model
  (Model/Float.lean): `round(v·10^-s, s)` is the correctly rounded quotient, and the one-sided
  truncation bound of `int(float(x) * 1000)`.
-/
namespace Amshan.C11
open Amshan.Flt

/-- **(Kaifa/Kamstrup scaling).** For every 32-bit register v and s ∈ {1,2,3}:
    `round(v * 10**-s, s)` is `ofRat v 10^s`, the model's correctly rounded v / 10^s. -/
theorem scaled_correct (v s : Nat) (hv : v < 4294967296) (hs : s = 1 ∨ s = 2 ∨ s = 3) :
    roundDigits (mul (ofInt v) (tenPowNeg s)) s = ofRat false v (10 ^ s) :=
  scaled_correct_gen v s (by omega) (by omega)

/-- **C11 (kilo units).** For a decimal value with up to three fractional digits, E = value × 1000
    (an integer below 2^50): `int(float(value) * 1000)` is E or E − 1 — within one unit below the
    exact decimal product and never above it. `k` is the number of fractional digits, `m` the digits
    read as an integer (so the value is m / 10^k). -/
theorem kilo_unit_bound (m k : Nat) (hk : k ≤ 3) (hE : m * 10 ^ (3 - k) < 2 ^ 50) :
    toInt (mul (ofRat false m (10 ^ k)) (ofNat 1000)) = .ok ((m * 10 ^ (3 - k) : Nat) : Int) ∨
    toInt (mul (ofRat false m (10 ^ k)) (ofNat 1000)) = .ok (((m * 10 ^ (3 - k) : Nat) : Int) - 1) := by
  have h := kilo_unit_bound_any m k (by omega) hE
  have hc := kilo_cross m k
  rw [show k - 3 = 0 by omega, pow_zero, Nat.mul_one] at hc
  rwa [hc, Nat.mul_div_cancel _ (Nat.pow_pos (by decide))] at h

/-- the truncation really happens for some values (the bound is tight): 1.001 kW → 1000 W -/
example : toInt (mul (ofRat false 1001 1000) (ofNat 1000)) = .ok 1000 := by decide +kernel

end Amshan.C11
