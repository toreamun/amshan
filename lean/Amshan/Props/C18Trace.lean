import Amshan.Lemmas.ConnMgrPacingLoss
/-
  C18 on the event loop — reconnect pacing as theorems about the EVENT LOG of every reachable state of
  the ConnectionManager transition system (`ConnMgr.next`: every interleaving of task steps with
  close(), factory outcomes, connection losses and clock advances; every max_delay `md`, breaker
  threshold `th` and breaker sleep `sl`).  Time unit: the model's clock `S.now`, in SECONDS (a `tick d`
  advances it by `d` seconds, `await sleep(x)` wakes at `now + x`); log entries are `(time, event)`.

  Lower bounds only.  The property's "no later than … plus scheduling slack" needs a time-bounded
  scheduler, which the (fully nondeterministic) model does not have; see Props/C17Progress.lean for
  what can be said about progress.

  What the log does NOT carry: the time at which connect_loop SEES a loss (the `utcnow()` of
  `_update_connection_lost_circuit_breaker()`); a `lost` entry is stamped when the connection dies.
  The breaker compares the times of SEEING two losses, so the sentence "two losses closer than the
  threshold ⇒ the next attempt waits the sleep" is not a theorem about `lost` stamps — the model (like
  the code) lets connect_loop run late (the `lateSighting` example at the end is a reachable
  counterexample).  The strongest log-only statement is `attempt_after_two_losses_paced`; the exact
  statement in terms of the time stored in the state is `loss_seen_updates_breaker` +
  `attempt_waits_breaker_sleep`.
-/
namespace Amshan.C18
open Amshan.BackOff Amshan.ConnMgr

variable {md th sl : Nat}

/-- `failStreak log` (Lemmas/ConnMgrPacing.lean: one pass over the log, `failed` adds one, `obtained`
    restarts at 0, every other event is skipped) is the number of `failed` events since the last
    `obtained` event: it is 0 right after an `obtained`, and over an `obtained`-free stretch it grows
    by the number of `failed` events in the stretch. -/
theorem failStreak_spec (pre l : List (Nat × Ev)) (t i : Nat) (h : ∀ x ∈ l, ∀ j, x.2 ≠ Ev.obtained j) :
    failStreak (pre ++ [(t, Ev.obtained i)]) = 0 ∧
    failStreak (pre ++ l) = failStreak pre + countFailed l ∧
    failStreak l = countFailed l := by
  refine ⟨by simp [failStreak_snoc, streakStep], ?_, ?_⟩
  · simp only [failStreak, failStreakFrom_append]
    exact failStreakFrom_no_obtained _ l h
  · simpa [failStreak] using failStreakFrom_no_obtained 0 l h

/-- a failure is the `(n+1)`-th consecutive one when `n` precede it; a successful connect resets `n` -/
theorem failStreak_events (l : List (Nat × Ev)) (t i : Nat) :
    failStreak (l ++ [(t, Ev.failed)]) = failStreak l + 1 ∧
    failStreak (l ++ [(t, Ev.obtained i)]) = 0 ∧
    failStreak (l ++ [(t, Ev.attempt)]) = failStreak l := by
  simp [failStreak_snoc, streakStep]

/-- In the log of every reachable state: if `n` consecutive failures precede the failure `(tf, failed)`
    and `(ta, attempt)` is the next attempt after it, then `ta ≥ tf + min (2^n) max_delay` seconds. -/
theorem attempt_after_failure_paced' (s : S) (h : Reach md th sl s)
    (pre mid post : List (Nat × Ev)) (tf ta : Nat)
    (hlog : s.log = pre ++ (tf, Ev.failed) :: mid ++ (ta, Ev.attempt) :: post)
    (hmid : ∀ x ∈ mid, x.2 ≠ Ev.attempt) :
    tf + min (2 ^ failStreak pre) md ≤ ta := by
  have hc := (reach_pfail h).chk
  rw [hlog] at hc
  -- the attempt was checked against the monitor's not-before time, which has only grown since the failure
  rw [← Mon.run_zero_n md pre]
  exact Nat.le_trans (Mon.run_failed md _ pre mid tf hmid) hc.at_attempt

/-- **C18 (manager, failures).**  The same with the failure at `tf` counted in: if `(tf, failed)` is the
    n-th consecutive failure (n = `failStreak` of the log up to and including it) and `(ta, attempt)` is
    the next attempt after it, then `ta ≥ tf + min (2^(n-1)) max_delay` seconds. -/
theorem attempt_after_failure_paced (s : S) (h : Reach md th sl s)
    (pre mid post : List (Nat × Ev)) (tf ta : Nat)
    (hlog : s.log = pre ++ (tf, Ev.failed) :: mid ++ (ta, Ev.attempt) :: post)
    (hmid : ∀ x ∈ mid, x.2 ≠ Ev.attempt) :
    tf + min (2 ^ (failStreak (pre ++ [(tf, Ev.failed)]) - 1)) md ≤ ta := by
  rw [failStreak_snoc]
  exact attempt_after_failure_paced' s h pre mid post tf ta hlog hmid

/-- the manager's strategy object always holds `_delay = 2^(n-1)` (0 for n = 0) for the number `n` of
    consecutive failures in the log, and `max_delay` as configured: the link between the log and the
    strategy-object theorems of Props/C18.lean -/
theorem backoff_state_matches_log (s : S) (h : Reach md th sl s) :
    s.backoff.maxDelay = md ∧
    s.backoff.delay = (if failStreak s.log = 0 then 0 else 2 ^ (failStreak s.log - 1)) ∧
    s.backoff.current = (if failStreak s.log = 0 then min 0 md else min (2 ^ (failStreak s.log - 1)) md) := by
  have h1 := (reach_pbase h).cfgMd
  have h2 := (reach_pfail h).delay
  rw [Mon.run_zero_n] at h2
  refine ⟨h1, h2, ?_⟩
  rw [current_eq_min, h1, h2, pow2pred]
  split <;> rfl

/-- **C18 (manager, breaker; time stored in the state).**  The step of connect_loop that SEES a loss
    (wake-up from `wait((done_task, closing_task2))` while not closing) stamps the breaker with the
    current time and sets the sleep flag exactly when the previous loss was SEEN less than the
    threshold ago. -/
theorem loss_seen_updates_breaker (s s' : S) (h : Reach md th sl s) (hs : next s .lRun = some s')
    (hl : s.lpc = .w2) (hc : s.closing = false) :
    s'.breaker.lastLoss = some (s.now * 1000000) ∧
    ∀ x, s.breaker.lastLoss = some x →
      ∃ u, x = u * 1000000 ∧ u ≤ s.now ∧ (s'.breaker.sleepFlag = true ↔ s.now - u < th) := by
  have hb := reach_pbase h
  have hbr : s'.breaker = s.breaker.update (s.now * 1000000) := by
    cases next_step hs with
    | lossSeen => rfl
    | w2Exit _ h => exact nomatch hc.symm.trans h
    | startExit h _ | startSpawn h _ | connected _ h _ _ _ | retry h _ _ _ | w1Exit h _ _ | w1CloseExit _ h _ _ =>
      exact nomatch hl.symm.trans h
  refine ⟨by rw [hbr, update_lastLoss], fun x hx => ?_⟩
  obtain ⟨u, rfl, hle⟩ := hb.lossU x hx
  exact ⟨u, rfl, hle, by rw [hbr, ← hb.cfgTh]; exact update_sleepFlag_sec s.breaker u s.now hx hle⟩

/-- **C18 (manager, breaker; time stored in the state).**  While the breaker's flag is set, a
    connection attempt starts at least `connection_lost_back_off_sleep_sec` after EVERYTHING logged
    before it — in particular after the loss that set the flag and after the last failure (so, with
    `attempt_after_failure_paced`, at least the larger of the connect-error delay and the breaker
    sleep after the failure). -/
theorem attempt_waits_breaker_sleep (s s' : S) (l : Label) (h : Reach md th sl s)
    (hs : next s l = some s') (ha : (s.now, Ev.attempt) ∈ s'.log.drop s.log.length)
    (hfl : s.breaker.sleepFlag = true) : ∀ x ∈ s.log, x.1 + sl ≤ s.now := by
  obtain ⟨_, hcr, hcl, hr⟩ := attempt_emitted hs ha
  exact (reach_ploss h).ready_waited (reach_pbase h) ((reach_inv h).active_of_ready hr hcr hcl) hfl hr

/-- once connect_loop has seen the last loss of the log (`_connection` is None, the manager is not
    closing and connect_loop has not returned), the breaker's time stamp is a clock time between that
    `lost` entry and now -/
theorem loss_seen_after_lost (s : S) (h : Reach md th sl s) (pre post : List (Nat × Ev)) (t c : Nat)
    (hlog : s.log = pre ++ (t, Ev.lost c) :: post) (hpost : ∀ x ∈ post, ∀ c', x.2 ≠ Ev.lost c')
    (hcl : s.closing = false) (hlpc : s.lpc ≠ .exited) (hconn : s.conn = none) :
    ∃ u, s.breaker.lastLoss = some (u * 1000000) ∧ t ≤ u ∧ u ≤ s.now := by
  have hb := reach_pbase h
  have hp := reach_ploss h
  have hl2 : (Mon.run md Mon.zero s.log).l2 = some t := hlog ▸ (Mon.run_lost md _ pre post t c hpost).2
  obtain ⟨x, hll, hx, _⟩ := hp.seen ⟨hcl, hlpc⟩ (fun c h => nomatch hconn.symm.trans h) t hl2
  obtain ⟨u, rfl, hle⟩ := hb.lossU x hll
  exact ⟨u, hll, Nat.le_of_mul_le_mul_right hx (by decide), hle⟩

/-- **C18 (manager, breaker; log only).**  In the log of every reachable state: after two consecutive
    `lost` events at `t1` and `t2`, every attempt made before the next loss starts at least
    `connection_lost_back_off_sleep_sec` after the second loss — or at least the threshold after the
    FIRST one (the only way out: connect_loop saw the second loss so late that, measured between the
    two sightings, the losses were no longer within the threshold). -/
theorem attempt_after_two_losses_paced (s : S) (h : Reach md th sl s)
    (pre mid1 mid2 post : List (Nat × Ev)) (t1 t2 ta c1 c2 : Nat)
    (hlog : s.log = pre ++ (t1, Ev.lost c1) :: mid1 ++ (t2, Ev.lost c2) :: mid2 ++ (ta, Ev.attempt) :: post)
    (hmid1 : ∀ x ∈ mid1, ∀ c, x.2 ≠ Ev.lost c) (hmid2 : ∀ x ∈ mid2, ∀ c, x.2 ≠ Ev.lost c) :
    t2 + sl ≤ ta ∨ t1 + th ≤ ta := by
  have hc := (reach_ploss h).chk
  rw [hlog] at hc
  have h2 := Mon.run_lost md Mon.zero (pre ++ (t1, Ev.lost c1) :: mid1) mid2 t2 c2 hmid2
  exact hc.at_attempt t1 t2 (h2.1.trans (Mon.run_lost md Mon.zero pre mid1 t1 c1 hmid1).2) h2.2

/-- the property's reading of the breaker clause, under the (log-expressible) proviso that the attempt
    is still within the threshold of the first loss -/
theorem attempt_after_two_quick_losses (s : S) (h : Reach md th sl s)
    (pre mid1 mid2 post : List (Nat × Ev)) (t1 t2 ta c1 c2 : Nat)
    (hlog : s.log = pre ++ (t1, Ev.lost c1) :: mid1 ++ (t2, Ev.lost c2) :: mid2 ++ (ta, Ev.attempt) :: post)
    (hmid1 : ∀ x ∈ mid1, ∀ c, x.2 ≠ Ev.lost c) (hmid2 : ∀ x ∈ mid2, ∀ c, x.2 ≠ Ev.lost c)
    (hquick : ta < t1 + th) : t2 + sl ≤ ta := by
  rcases attempt_after_two_losses_paced s h pre mid1 mid2 post t1 t2 ta c1 c2 hlog hmid1 hmid2 with h1 | h1
  · exact h1
  · omega

/-- three consecutive failures with max_delay 60: attempts at 0, 1, 3, 7 — every wait is exactly the bound -/
def threeFailures : List Label :=
  [.lRun, .tRun, .factoryFail, .lRun, .tRun, .tick 1, .tRun, .factoryFail, .lRun, .tRun, .tick 2, .tRun,
   .factoryFail, .lRun, .tRun, .tick 4, .tRun]

example : ∃ s, Reach 60 5 5 s ∧
    s.log = [(0, .attempt), (0, .failed), (1, .attempt), (1, .failed), (3, .attempt), (3, .failed), (7, .attempt)] ∧
    s.backoff.delay = 4 ∧ s.t = .inFactory :=
  reach_of_run threeFailures (by decide)

/-- `attempt_after_failure_paced` applies to that log (third consecutive failure at 3, next attempt at
    7) and its bound `3 + min (2^(3-1)) 60 = 7` is attained -/
example (s : S) (h : Reach 60 5 5 s)
    (hl : s.log = [(0, .attempt), (0, .failed), (1, .attempt), (1, .failed), (3, .attempt), (3, .failed), (7, .attempt)]) :
    failStreak ([(0, .attempt), (0, .failed), (1, .attempt), (1, .failed), (3, .attempt)] ++ [(3, Ev.failed)]) = 3 ∧
    3 + min (2 ^ (3 - 1)) 60 = 7 ∧
    3 + min (2 ^ (failStreak ([(0, .attempt), (0, .failed), (1, .attempt), (1, .failed), (3, .attempt)] ++
      [(3, Ev.failed)]) - 1)) 60 ≤ 7 :=
  ⟨by decide, by decide,
   attempt_after_failure_paced s h [(0, .attempt), (0, .failed), (1, .attempt), (1, .failed), (3, .attempt)] [] []
    3 7 (by rw [hl]; rfl) (by simp)⟩

/-- two losses 2 s apart, both seen at once: the attempt after the second loss (at 2) starts at
    7 = 2 + sleep 5 -/
def twoQuickLosses : List Label :=
  [.lRun, .tRun, .factoryOk, .lRun, .lose, .lRun, .tRun, .factoryOk, .lRun, .tick 2, .lose, .lRun, .tRun,
   .tick 5, .tRun]

example : ∃ s, Reach 60 10 5 s ∧
    s.log = [(0, .attempt), (0, .obtained 0), (0, .lost 0), (0, .attempt), (0, .obtained 1), (2, .lost 1),
             (7, .attempt)] ∧
    s.breaker.sleepFlag = true ∧ s.breaker.lastLoss = some 2000000 :=
  reach_of_run twoQuickLosses (by decide)

/-- `attempt_after_two_quick_losses` applies to that log and its bound `2 + 5 = 7` is attained -/
example (s : S) (h : Reach 60 10 5 s)
    (hl : s.log = [(0, .attempt), (0, .obtained 0), (0, .lost 0), (0, .attempt), (0, .obtained 1), (2, .lost 1),
             (7, .attempt)]) : 2 + 5 ≤ 7 :=
  attempt_after_two_quick_losses s h [(0, .attempt), (0, .obtained 0)] [(0, .attempt), (0, .obtained 1)] [] []
    0 2 7 0 1 (by rw [hl]; rfl) (by simp) (by simp) (by decide)

/-- the defaults (threshold 5, sleep 5): the hypotheses of `attempt_waits_breaker_sleep` hold in the
    state before the last step of the same run (flag set, the step emits the attempt at 7), and the
    entry `(2, lost 1)` attains its bound -/
example : ∃ s s', Reach 60 5 5 s ∧ next s .tRun = some s' ∧
    (s.now, Ev.attempt) ∈ s'.log.drop s.log.length ∧ s.breaker.sleepFlag = true ∧
    (2, Ev.lost 1) ∈ s.log ∧ s.now = 2 + 5 :=
  have ⟨s, hr, s', h⟩ := reach_of_run (md := 60) (th := 5) (sl := 5) (twoQuickLosses.take 14)
    (P := fun s => ∃ s', next s .tRun = some s' ∧ (s.now, Ev.attempt) ∈ s'.log.drop s.log.length ∧
      s.breaker.sleepFlag = true ∧ (2, Ev.lost 1) ∈ s.log ∧ s.now = 2 + 5) (by decide)
  ⟨s, s', hr, h⟩

/-- the sentence "two `lost` events closer than the threshold ⇒ the next attempt is at least the sleep
    after the second" is FALSE of `lost` stamps (threshold 5, sleep 5): losses at 0 and 4, the second is
    seen at 5 (one second late), `5 - 0 < 5` fails, the attempt starts at 5 < 4 + 5.  The disjunct
    `t1 + th ≤ ta` of `attempt_after_two_losses_paced` holds with equality. -/
def lateSighting : List Label :=
  [.lRun, .tRun, .factoryOk, .lRun, .lose, .lRun, .tRun, .factoryOk, .lRun, .tick 4, .lose, .tick 1, .lRun, .tRun]

example : ∃ s, Reach 60 5 5 s ∧
    s.log = [(0, .attempt), (0, .obtained 0), (0, .lost 0), (0, .attempt), (0, .obtained 1), (4, .lost 1),
             (5, .attempt)] ∧ 4 - 0 < 5 ∧ ¬ (4 + 5 ≤ 5) ∧ 0 + 5 ≤ 5 :=
  reach_of_run lateSighting (by decide)

end Amshan.C18
