import Amshan.Props.C01
import Amshan.Props.C01Framing
import Amshan.Props.C06
import Amshan.Lemmas.HdlcReadLevel
/-
  C01 at the entry point — the theorems of Props/C01.lean and Props/C01Framing.lean restated for
  `HdlcFrameReader.read()` itself: every configuration, every reader reachable by `read()` calls on
  byte strings (`ReachableOct`; a new reader is one), every further list of chunks `cs` (any splitting
  of the stream into `read()` calls, empty chunks included).  `(readAll cfg r cs).2.flatten` is the
  concatenation of the frame lists returned by the successive calls.
-/
namespace Amshan.C01
open Amshan.Gen Amshan.Hdlc Amshan.HdlcSpec

/-- every frame `read()` returns satisfies the frame invariant, and the reader stays reachable -/
theorem read_frames_inv (cfg : Cfg) (r : Reader) (hr : ReachableOct cfg r) (cs : List (List Nat))
    (hcs : Octets cs.flatten) :
    (∀ f ∈ (readAll cfg r cs).2.flatten, FrameInv f) ∧ ReachableOct cfg (readAll cfg r cs).1 :=
  ⟨hr.frames_inv cs hcs, hr.readAll cs hcs⟩

/-- **C01 (validity), for `read()`.** For every byte stream, every way of splitting it into `read()`
    calls and every reader configuration, each frame the reader returns reports `is_valid = true`
    exactly when its length field equals its octet count and its last two octets are the RFC 1662
    FCS-16 of the preceding ones, low octet first. -/
theorem read_valid_iff_intact (cfg : Cfg) (r : Reader) (hr : ReachableOct cfg r) (cs : List (List Nat))
    (hcs : Octets cs.flatten) :
    ∀ f ∈ (readAll cfg r cs).2.flatten, (f.isValid = true ↔ Intact f.data) :=
  fun f hf => valid_iff_intact f (hr.frames_inv cs hcs f hf)

/-- the same from a new reader -/
theorem read_valid_iff_intact_init (cfg : Cfg) (cs : List (List Nat)) (hcs : Octets cs.flatten) :
    ∀ f ∈ (readAll cfg Reader.init cs).2.flatten, (f.isValid = true ↔ Intact f.data) :=
  read_valid_iff_intact cfg Reader.init (ReachableOct.init cfg) cs hcs

/-- every frame `read()` returns has a complete header (no hypothesis on the octets) -/
theorem read_has_hcs (cfg : Cfg) (r : Reader) (hr : Reachable cfg r) (cs : List (List Nat)) :
    ∀ f ∈ (readAll cfg r cs).2.flatten, f.hcs.isSome = true := by
  rw [hr.frames_eq_run cs]
  exact returned_has_hcs cfg r.core cs.flatten

/-- **C01 (exact fields), for `read()`.** Every frame `read()` returns decomposes into format octets,
    destination address, source address, control, header check sequence and the rest, and every
    accessor returns exactly the corresponding octets. -/
theorem read_accessors_exact (cfg : Cfg) (r : Reader) (hr : ReachableOct cfg r) (cs : List (List Nat))
    (hcs : Octets cs.flatten) :
    ∀ f ∈ (readAll cfg r cs).2.flatten,
      ∃ a b dst src ctl h1 h2 rest,
        f.data = [a, b] ++ dst ++ src ++ [ctl, h1, h2] ++ rest ∧ addrWF dst = true ∧ addrWF src = true ∧
        f.dest = some dst ∧ f.src = some src ∧ f.control = some ctl ∧ f.hcs = some (h1 * 256 + h2) ∧
        f.infoPos = some (2 + dst.length + src.length + 3) ∧
        f.frameLength = some ((a * 256 + b) % 2048) ∧
        f.formatType = some (a / 16 % 16) ∧
        (rest = [] → f.payload = none ∧ f.fcsField = some (h1 * 256 + h2)) ∧
        (∀ x, rest = [x] → f.payload = some [] ∧ f.fcsField = some (h2 * 256 + x)) ∧
        (∀ info f1 f2, rest = info ++ [f1, f2] →
          f.payload = some info ∧ f.fcsField = some (f1 * 256 + f2)) := by
  intro f hf
  have hinv : FrameInv f := hr.frames_inv cs hcs f hf
  have hh : f.hcs.isSome = true := read_has_hcs cfg r hr.reachable cs f hf
  obtain ⟨a, b, dst, src, ctl, h1, h2, rest, hd, hdst, hsrc⟩ := header_shape f hinv hh
  exact ⟨a, b, dst, src, ctl, h1, h2, rest, hd, hdst, hsrc,
    accessors_exact f hinv a b dst src ctl h1 h2 rest hd hdst hsrc⟩

/-- **C01 (framing), for `read()`.** From a new reader, whatever the splitting: the octets of the
    returned frames occur contiguously in the concatenated input between two flag octets (after
    un-stuffing when octet stuffing is on), no input octet is used by two frames, frames come out in
    stream order. -/
theorem read_framing (cfg : Cfg) (cs : List (List Nat)) :
    ∃ segs, Carve cs.flatten segs ∧
      (readAll cfg Reader.init cs).2.flatten.map (·.data) = segs.map (decode cfg.stuffing) := by
  rw [(ReachableOct.init cfg).frames_eq_run cs]
  exact framing cfg cs.flatten

/-- the same for any reachable reader that is hunting (no frame in progress): the frames are carved out
    of the chunks given from now on -/
theorem read_framing_hunting (cfg : Cfg) (r : Reader) (hr : Reachable cfg r)
    (hh : r.core.frame = none) (cs : List (List Nat)) :
    ∃ segs, Carve cs.flatten segs ∧
      (readAll cfg r cs).2.flatten.map (·.data) = segs.map (decode cfg.stuffing) := by
  rw [hr.frames_eq_run cs]
  exact run_carve_hunt cfg r.core hh cs.flatten

/-- … and for any reachable reader together with its history `hist` (a frame in progress began in
    the history): the frames returned so far followed by the frames returned from now on are carved out
    of the history followed by the new chunks — octets are not reused across calls either. -/
theorem read_framing_history (cfg : Cfg) (hist cs : List (List Nat)) :
    ∃ segs, Carve (hist.flatten ++ cs.flatten) segs ∧
      ((readAll cfg Reader.init hist).2.flatten ++
        (readAll cfg (readAll cfg Reader.init hist).1 cs).2.flatten).map (·.data) =
      segs.map (decode cfg.stuffing) := by
  have h := read_framing cfg (hist ++ cs)
  rw [readAll_append] at h
  simpa only [List.flatten_append] using h

/-! ### non-vacuity, on a real frame

  tests/test_hdlc.py FRAME_WITH_FLAG_SEQUENCE_CHARACTER_IN_INFO: a Kaifa list-1 push, 39 octets,
  one-octet destination 01, two-octet source 02 01, control 10, HCS 5A 87, a flag octet 7E inside the
  information field, FCS EA 5E.  Stuffing off, abort detection on.  The reader has already seen
  noise, the opening flag and the first five octets (in two calls); the rest arrives in four calls,
  one of them empty. -/
namespace ReadWitness
set_option linter.defProp false

def info : List Nat :=
  [0xE6, 0xE7, 0x00, 0x0F, 0x40, 0x00, 0x00, 0x00, 0x09, 0x0C, 0x07, 0xE4, 0x02, 0x0F, 0x06, 0x01, 0x19,
   0x22, 0xFF, 0x80, 0x00, 0x00, 0x02, 0x01, 0x06, 0x00, 0x00, 0x15, 0x7E]
def octets : List Nat := [0xA0, 0x27, 0x01, 0x02, 0x01, 0x10, 0x5A, 0x87] ++ info ++ [0xEA, 0x5E]
def wcfg : Cfg := ⟨false, true⟩
def hist : List (List Nat) := [[0xC3, 0x11, 0x7E, 0xA0], [0x27, 0x01, 0x02, 0x01]]
def rest : List (List Nat) :=
  [[0x10, 0x5A], [], [0x87] ++ info.take 20, info.drop 20 ++ [0xEA, 0x5E, 0x7E]]
/-- a second copy with one bit flipped (… 15 7E → … 14 7E), after the good frame -/
def restBad : List (List Nat) :=
  rest ++ [octets.set 35 0x14, [0x7E]]
def good : Frame := octets.foldl Frame.append Frame.empty
def bad : Frame := (octets.set 35 0x14).foldl Frame.append Frame.empty
def rd : Reader := (readAll wcfg Reader.init hist).1

def rd_reach : ReachableOct wcfg rd := ⟨hist, by decide, rfl⟩

def rd_core : rd.core = (run wcfg Core.init hist.flatten).1 :=
  readAll_core wcfg Reader.init hist Reader.init_buf

/-- the reader is really in the middle of a frame -/
example : rd.core.frame.isSome = true := by rw [rd_core]; decide +kernel

def returned : (readAll wcfg rd restBad).2.flatten = [good, bad] := by
  rw [rd_reach.frames_eq_run restBad, rd_core]
  decide +kernel

/-- evaluated once: what `is_valid` reports for the two frames, and that the chunks are byte strings -/
def evaluated : Octets restBad.flatten ∧ good.isValid = true ∧ bad.isValid = false := by
  decide +kernel

def returned_init : (readAll wcfg Reader.init (hist ++ rest)).2.flatten = [good] := by
  rw [(ReachableOct.init wcfg).frames_eq_run]; decide +kernel

/-- `read_frames_inv`, `read_valid_iff_intact`: all hypotheses hold; the real frame is reported valid,
    hence intact; the damaged one is reported invalid, hence not intact -/
example : Octets restBad.flatten ∧ FrameInv good ∧
    good.isValid = true ∧ Intact good.data ∧ bad.isValid = false ∧ ¬ Intact bad.data := by
  obtain ⟨ho, hgv, hbv⟩ := evaluated
  have hmem : ∀ f ∈ [good, bad], f ∈ (readAll wcfg rd restBad).2.flatten := by
    rw [returned]; exact fun f hf => hf
  have hg := read_valid_iff_intact wcfg rd rd_reach restBad ho good (hmem good (by simp))
  have hb := read_valid_iff_intact wcfg rd rd_reach restBad ho bad (hmem bad (by simp))
  exact ⟨ho, (read_frames_inv wcfg rd rd_reach restBad ho).1 good (hmem good (by simp)),
    hgv, hg.1 hgv, hbv, fun hi => by rw [hb.2 hi] at hbv; cases hbv⟩

/-- `read_valid_iff_intact_init` on the whole stream from a new reader -/
example : Intact good.data := by
  exact (read_valid_iff_intact_init wcfg (hist ++ rest) (by decide) good
    (by rw [returned_init]; simp)).1 evaluated.2.1

/-- `read_has_hcs`, `read_accessors_exact`: the decomposition exists for the returned real frame, and
    for ITS decomposition the accessors give the real field values -/
example : good.hcs.isSome = true ∧ good.dest = some [0x01] ∧ good.src = some [0x02, 0x01] ∧
    good.control = some 0x10 ∧ good.payload = some info ∧ good.fcsField = some 0xEA5E := by
  have hmem : good ∈ (readAll wcfg rd restBad).2.flatten := by rw [returned]; simp
  have hh := read_has_hcs wcfg rd rd_reach.reachable restBad good hmem
  obtain ⟨a, b, dst, src, ctl, h1, h2, rs, hd, hdst, hsrc, _⟩ :=
    read_accessors_exact wcfg rd rd_reach restBad evaluated.1 good hmem
  -- the decomposition is unique; here it is
  have hinv : FrameInv good := (read_frames_inv wcfg rd rd_reach restBad evaluated.1).1 good hmem
  obtain ⟨e1, e2, e3, _, _, _, _, _, _, e10⟩ :=
    accessors_exact good hinv 0xA0 0x27 [0x01] [0x02, 0x01] 0x10 0x5A 0x87 (info ++ [0xEA, 0x5E])
      (by decide +kernel) (by decide) (by decide)
  obtain ⟨e11, e12⟩ := e10 info 0xEA 0x5E rfl
  exact ⟨hh, e1, e2, e3, e11, e12⟩

/-- `read_framing`: instantiated on the whole stream from a new reader (six calls) -/
example : ∃ segs, Carve (hist ++ rest).flatten segs ∧ [good.data] = segs.map (decode wcfg.stuffing) := by
  have h := read_framing wcfg (hist ++ rest)
  rwa [returned_init] at h

/-- `read_framing_hunting`: a reachable reader that is hunting (it has only seen noise) -/
example : ∃ segs, Carve ([0x7E] :: [octets, [0x7E]]).flatten segs ∧
    ((readAll wcfg (readAll wcfg Reader.init [[0xC3, 0x11]]).1 ([0x7E] :: [octets, [0x7E]])).2.flatten.map
      (·.data)) = segs.map (decode wcfg.stuffing) :=
  read_framing_hunting wcfg _ ⟨[[0xC3, 0x11]], rfl⟩
    (by rw [readAll_core wcfg Reader.init _ Reader.init_buf]; decide +kernel) _

/-- `read_framing_history`: the mid-frame reader with its history -/
example : ∃ segs, Carve (hist.flatten ++ restBad.flatten) segs ∧
    (([] : List Frame) ++ [good, bad]).map (·.data) = segs.map (decode wcfg.stuffing) := by
  have h := read_framing_history wcfg hist restBad
  have h0 : (readAll wcfg Reader.init hist).2.flatten = [] := by
    rw [(ReachableOct.init wcfg).frames_eq_run]; decide +kernel
  have h1 : (readAll wcfg (readAll wcfg Reader.init hist).1 restBad).2.flatten = [good, bad] := returned
  rwa [h0, h1] at h

end ReadWitness

end Amshan.C01
