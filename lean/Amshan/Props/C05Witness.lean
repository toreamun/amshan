import Amshan.Props.C05
/-
  C05 — non-vacuity witness for `p1_clean_delivered`: a stream that starts with the TAIL of a readout
  (the reader joined mid-transmission: the last data line and the end line `!80FF` of tests/test_dlde.py
  EXAMPLE_DATA_C), followed by four well-formed readouts back to back: a short Landis+Gyr E360 readout with
  checksum, a checksum-less readout in the style of EXAMPLE_DATA_B (16-character identification), the first
  one again, and a long one (281 data lines, 8 175 octets — just under the 8 191-octet guard).  Three
  splittings: octet by octet, fixed 100-octet chunks (which never fall between two readouts), one piece.
-/
namespace Amshan.C05.Witness
set_option linter.defProp false
open Amshan.Gen Amshan.P1 Amshan.P1Spec

def s (x : String) : List Nat := x.toList.map Char.toNat

def tail : List Nat := s "1-0:71.7.0(010.2*A)\r\n!80FF\r\n"

def dS : ReadoutDesc :=
  { man := s "LGF", baud := 53, escs := [], ident := s "E360",
    lines := [s "", s "0-0:1.0.0(210222161900W)", s "1-0:1.8.0(00000896.020*kWh)", s "1-0:1.7.0(0000.000*kW)",
              s "1-0:32.7.0(230.1*V)", s "1-0:31.7.0(000.6*A)"],
    checksum := some false }

def dB : ReadoutDesc :=
  { man := s "XMX", baud := 53, escs := [], ident := s "LGBBFFB231314239",
    lines := [s "", s "1-3:0.2.8(42)", s "0-0:1.0.0(180924132132S)", s "1-0:1.8.1(011522.839*kWh)",
              s "0-0:96.13.1()", s "0-1:24.2.1(180924130000S)(04890.857*m3)"],
    checksum := none }

/-- 281 data lines: 8 175 octets -/
def dLong : ReadoutDesc :=
  { man := s "ELL", baud := 53, escs := s "2", ident := s "53833635_A",
    lines := List.replicate 281 (s "1-0:1.8.0(00001605.055*kWh)"), checksum := some true }

def ds : List ReadoutDesc := [dS, dB, dS, dLong]

def stream : List Nat := tail ++ ds.flatMap ReadoutDesc.encode

/-- hypothesis 1: the tail is octets and has no start character -/
def htail : Octets tail ∧ p1Start ∉ tail := by decide +kernel

/-- hypothesis 2: every readout is well formed and fits the guard -/
def hds : ∀ d ∈ ds, d.WF ∧ d.encode.length ≤ p1Guard := by decide +kernel

example : dLong.encode.length = 8175 ∧ 8191 < stream.length := by decide +kernel

/-- fixed-size chunks -/
def chunksOf (n : Nat) : Nat → List Nat → List (List Nat)
  | 0, w => [w]
  | k + 1, w => w.take n :: chunksOf n k (w.drop n)

def chunksOf_flatten (n k : Nat) (w : List Nat) : (chunksOf n k w).flatten = w := by
  induction k generalizing w with
  | zero => simp [chunksOf]
  | succ k ih => simp [chunksOf, ih, List.take_append_drop]

def bytewise_flatten (w : List Nat) : (w.map ([·])).flatten = w := by
  induction w with
  | nil => rfl
  | cons a t ih => simpa using ih

/-- **all hypotheses hold simultaneously and the conclusion is: no exception, and exactly the four
    readouts are delivered, byte-identical, in order** — for the three splittings -/
example :
    (∃ r outs, readAll Reader.init (stream.map ([·])) = .ok (r, outs) ∧ outs.flatten = ds.map expectedReadout) ∧
    (∃ r outs, readAll Reader.init (chunksOf 100 90 stream) = .ok (r, outs) ∧ outs.flatten = ds.map expectedReadout) ∧
    (∃ r outs, readAll Reader.init [stream] = .ok (r, outs) ∧ outs.flatten = ds.map expectedReadout) :=
  ⟨p1_clean_delivered tail ds _ htail hds (bytewise_flatten _),
   p1_clean_delivered tail ds _ htail hds (chunksOf_flatten 100 90 _),
   p1_clean_delivered tail ds [stream] htail hds (by simp [stream])⟩

/-- the delivered objects are the transmitted octets -/
example : (ds.map expectedReadout).map (·.bytes) = ds.map ReadoutDesc.encode := rfl

/-- the guard hypothesis is a real restriction: 282 such lines make a well-formed readout of 8 204 octets,
    which the theorem does not cover -/
example : let d : ReadoutDesc := { dLong with lines := List.replicate 282 (s "1-0:1.8.0(00001605.055*kWh)") }
    d.WF ∧ ¬ d.encode.length ≤ p1Guard := by
  decide +kernel

end Amshan.C05.Witness
