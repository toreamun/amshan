import Amshan.Lemmas.GenCodeHdlcRead
/-
  C06 (tie by translation, buffer level) — `HdlcFrameReader.read(data_chunk)` and its input buffer `_ReaderBuffer`
  (han/hdlc.py: `is_available`, `pop`, `extend`, `trim_buffer_to_current_position`, `trim_buffer_to_flag_or_end`),
  mechanically translated from the current source (Amshan/GeneratedCodeHdlcRead.lean), equal the model's `Hdlc.read`,
  `Hdlc.loop` and `Hdlc.Buf` functions.

  The Python-level state is the record `GenCode.PyReader` (`_unescape_next`, `_raw_frame_data`, `_frame`, and `_buffer`:
  the record `GenCode.PyBuf` of the WHOLE bytearray `_buffer` and `_buffer_pos`).  The model forgets the contents of the
  bytearray before the read position: `GenLemmas.absBuf b = ⟨b.pos, b.buffer.drop b.pos⟩`, `GenLemmas.absReader` likewise.
  Every buffer method commutes with the abstraction under the invariant `GenLemmas.BufInv b : b.pos ≤ b.buffer.length`
  (needed by `extend` only), and preserves it.  Why the state machine is translated a second time, against the reader
  record (`hdlcRd..`), is said at the head of Lemmas/GenCodeHdlcRead.lean.
-/
namespace Amshan.C06
open Amshan.Hdlc Amshan.GenCode Amshan.GenLemmas

/-- `is_available`: there is an unread octet -/
theorem gen_buf_isAvailable (b : PyBuf) : hdlcBufIsAvailable b = !(absBuf b).inp.isEmpty :=
  hdlcBufIsAvailable_eq b

/-- `pop()` with an octet available: it answers the first unread octet `x`, and the model's buffer after it is
    `⟨consumed + 1, rest⟩` (the `b1` of `Hdlc.loop`) -/
theorem gen_buf_pop (b : PyBuf) (x : Nat) (rest : List Nat) (h : (absBuf b).inp = x :: rest) :
    (hdlcBufPop b).2 = x ∧ absBuf (hdlcBufPop b).1 = { consumed := (absBuf b).consumed + 1, inp := rest } ∧
      BufInv (hdlcBufPop b).1 :=
  hdlcBufPop_eq b x rest h

/-- `extend(data_chunk)` -/
theorem gen_buf_extend (b : PyBuf) (chunk : List Nat) (hb : BufInv b) :
    absBuf (hdlcBufExtend b chunk) = (absBuf b).extend chunk ∧ BufInv (hdlcBufExtend b chunk) :=
  hdlcBufExtend_eq b chunk hb

/-- `trim_buffer_to_current_position()` -/
theorem gen_buf_trimToPos (b : PyBuf) :
    absBuf (hdlcBufTrimToPos b) = (absBuf b).trimToPos ∧ BufInv (hdlcBufTrimToPos b) :=
  hdlcBufTrimToPos_eq b

/-- `trim_buffer_to_flag_or_end()` (`bytearray.find`, the tests on its answer, the slice) -/
theorem gen_buf_trimToFlagOrEnd (b : PyBuf) :
    absBuf (hdlcBufTrimToFlagOrEnd b) = (absBuf b).trimToFlagOrEnd ∧ BufInv (hdlcBufTrimToFlagOrEnd b) :=
  hdlcBufTrimToFlagOrEnd_eq b

/-- `_read_next()` on the reader record is the translation on `Core` (`hdlcReadNext`, C01GenReader) for the octet that
    `pop()` answers, and where that translation records `trimmed` the buffer after `pop` is really trimmed -/
theorem gen_readNext_pops (cfg : Cfg) (r : PyReader) :
    hdlcRdReadNext cfg r =
      (mkReader (hdlcReadNext cfg (coreOf r) (hdlcBufPop r.buf).2).1
        (if (hdlcReadNext cfg (coreOf r) (hdlcBufPop r.buf).2).2.1 then hdlcBufTrimToFlagOrEnd (hdlcBufPop r.buf).1
          else (hdlcBufPop r.buf).1),
       (hdlcReadNext cfg (coreOf r) (hdlcBufPop r.buf).2).2.2) :=
  rd_readNext_core cfg r

/-- the `while self._buffer.is_available:` loop and the final trim: the model's `loop`, for every fuel larger than the
    number of unread octets, whatever is answered when the fuel runs out (`oof`) -/
theorem gen_read_loop (cfg : Cfg) (r0 : PyReader) (chunk : List Nat) (oof : PyReader × List Frame)
    (fuel : Nat) (c : Core) (buf : PyBuf) (frames : List Frame)
    (hb : BufInv buf) (hfuel : (absBuf buf).inp.length < fuel) :
    absReader (hdlcRdRead.loop1 cfg r0 chunk oof fuel c.unescapeNext c.raw c.frame buf frames).1
        = { core := (loop cfg c (absBuf buf) frames).1, buf := (loop cfg c (absBuf buf) frames).2.1.trimToPos } ∧
      (hdlcRdRead.loop1 cfg r0 chunk oof fuel c.unescapeNext c.raw c.frame buf frames).2
        = (loop cfg c (absBuf buf) frames).2.2 :=
  ⟨(hdlcRdRead_loop_eq cfg r0 chunk oof fuel c buf frames hb hfuel).1,
   (hdlcRdRead_loop_eq cfg r0 chunk oof fuel c buf frames hb hfuel).2.1⟩

/-- `HdlcFrameReader.read(data_chunk)`: for every Python-level reader state that satisfies the invariant, the state
    afterwards (seen through the abstraction) and the frames returned are the model's -/
theorem gen_read (cfg : Cfg) (r : PyReader) (chunk : List Nat) (hr : ReaderInv r) :
    absReader (hdlcRdRead cfg r chunk).1 = (Hdlc.read cfg (absReader r) chunk).1 ∧
      (hdlcRdRead cfg r chunk).2 = (Hdlc.read cfg (absReader r) chunk).2 :=
  ⟨(hdlcRdRead_eq cfg r chunk hr).1, (hdlcRdRead_eq cfg r chunk hr).2.1⟩

/-- `read` preserves the invariant -/
theorem gen_read_preserves_inv (cfg : Cfg) (r : PyReader) (chunk : List Nat) (hr : ReaderInv r) :
    ReaderInv (hdlcRdRead cfg r chunk).1 :=
  (hdlcRdRead_eq cfg r chunk hr).2.2

/-- a sequence of `read()` calls on the translated code -/
def pyReadAll (cfg : Cfg) (r : PyReader) : List (List Nat) → PyReader × List (List Frame)
  | [] => (r, [])
  | ch :: chs => ((pyReadAll cfg (hdlcRdRead cfg r ch).1 chs).1, (hdlcRdRead cfg r ch).2 :: (pyReadAll cfg (hdlcRdRead cfg r ch).1 chs).2)

/-- ... is the model's `readAll`, from every state that satisfies the invariant (the initial one does: `gen_init_inv`;
    `read` keeps it) -/
theorem gen_readAll (cfg : Cfg) (r : PyReader) (chunks : List (List Nat)) (hr : ReaderInv r) :
    absReader (pyReadAll cfg r chunks).1 = (readAll cfg (absReader r) chunks).1 ∧
      (pyReadAll cfg r chunks).2 = (readAll cfg (absReader r) chunks).2 := by
  induction chunks generalizing r with
  | nil => exact ⟨rfl, rfl⟩
  | cons ch chs ih =>
    obtain ⟨h1, h2⟩ := gen_read cfg r ch hr
    obtain ⟨i1, i2⟩ := ih (hdlcRdRead cfg r ch).1 (gen_read_preserves_inv cfg r ch hr)
    simp only [pyReadAll, readAll]
    rw [← h1, ← h2]
    exact ⟨i1, by rw [i2]⟩

/-- the reader that `HdlcFrameReader.__init__` builds satisfies the invariant and is the model's initial reader -/
theorem gen_init_inv : ReaderInv { unescapeNext := false, raw := [], frame := none, buf := { buffer := [], pos := 0 } } ∧
    absReader { unescapeNext := false, raw := [], frame := none, buf := { buffer := [], pos := 0 } } = Reader.init :=
  ⟨Nat.le_refl 0, rfl⟩

end Amshan.C06
