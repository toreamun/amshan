import Amshan.Props.C19Hdlc
import Amshan.Lemmas.HdlcReadLevel
/-
  C19 (HDLC part) at the entry point: the bound after ANY further sequence of `read()` calls from a
  reachable reader (hence after every call of it), and the bound on the frame under construction of
  any reachable reader.
-/
namespace Amshan.C19
open Amshan.Gen Amshan.Hdlc

/-- **C19 (HDLC), over a whole call history.** From any reachable reader, after any sequence of
    `read()` calls with any chunks (any sizes, any number), the reader holds at most three
    maximum-size frames plus one octet — independently of how many bytes have been fed. -/
theorem hdlc_bounded_readAll (cfg : Cfg) (r : Reader) (hr : Reachable cfg r) (cs : List (List Nat)) :
    (readAll cfg r cs).1.size ≤ 3 * maxFrameLen + 1 :=
  hdlc_reachable_bounded cfg _ (hr.readAll cs)

/-- … in particular after every single call of the sequence: the reader after the first `n` calls
    is within the bound, for every `n` -/
theorem hdlc_bounded_every_call (cfg : Cfg) (r : Reader) (hr : Reachable cfg r)
    (cs : List (List Nat)) (n : Nat) :
    (readAll cfg r (cs.take n)).1.size ≤ 3 * maxFrameLen + 1 :=
  hdlc_bounded_readAll cfg r hr (cs.take n)

/-- the frame under construction of any reachable reader never exceeds the maximum frame length -/
theorem hdlc_frame_bounded_read (cfg : Cfg) (r : Reader) (hr : Reachable cfg r) :
    match r.core.frame with
    | some f => f.len ≤ maxFrameLen
    | none => True := by
  cases hf : r.core.frame with
  | none => trivial
  | some f => exact (BndBy_some hr.bnd hf).1

/-! ### non-vacuity: after 100 calls of 1000 flags, a frame start that never ends (real header, then
    2 000 escape octets — stuffing on), then one call of 65 536 octets -/
namespace ReadWitness
set_option linter.defProp false

def hist : List (List Nat) :=
  List.replicate 100 (List.replicate 1000 0x7E) ++
    [[0x7E, 0xA0, 0x27, 0x01, 0x02, 0x01, 0x10, 0x5A, 0x87] ++ List.replicate 2000 0x7D]

def rd : Reader := (readAll ⟨true, true⟩ Reader.init hist).1
def rd_reach : Reachable ⟨true, true⟩ rd := ⟨hist, rfl⟩

example : (readAll ⟨true, true⟩ rd [List.replicate 65536 0x7D, [], [0x7E, 0x7E]]).1.size ≤ 3 * maxFrameLen + 1 :=
  hdlc_bounded_readAll ⟨true, true⟩ rd rd_reach _

example : (readAll ⟨true, true⟩ rd ([List.replicate 65536 0x7D, [], [0x7E, 0x7E]].take 1)).1.size ≤
    3 * maxFrameLen + 1 :=
  hdlc_bounded_every_call ⟨true, true⟩ rd rd_reach _ 1

example : match rd.core.frame with
    | some f => f.len ≤ maxFrameLen
    | none => True :=
  hdlc_frame_bounded_read ⟨true, true⟩ rd rd_reach

example : 3 * maxFrameLen + 1 = 6142 := by decide

end ReadWitness

end Amshan.C19
