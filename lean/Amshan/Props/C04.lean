import Amshan.Props.C04General
/-
  C04 — a P1 readout is reported valid only if its CRC16 and identification check out.
  Model: Model/P1.lean (DataReadout, Ident, _calculate_crc16), Model/PyStr.lean (CPython built-ins).
  Spec : Spec/P1Wire.lean (CRC-16/ARC, checksum text, well-formed readouts).
-/
namespace Amshan.C04
open Amshan.Gen Amshan.P1 Amshan.P1Spec Amshan.Py

/-- pins: the hand-written matcher and CRC model were written for exactly these source texts/values
    (re-checked against the regenerated constants on every run; the body of _calculate_crc16 is not pinned by
    its literals: it is translated and proved equal to the model in Props/C04Gen.lean) -/
theorem ident_pattern_pin :
    identPatternSrc = "^\\/(?P<MANID>[A-Z][A-Z][a-zA-Z])(?P<BAUDID>\\d)((\\\\\\w)*)(?P<ID>[ -~]{1,16})?(\\r\\n)?$" := by
  decide

theorem constant_pins : crc16Poly = 0xA001 ∧ p1Start = 47 ∧ p1End = 33 ∧ p1Lf = 10 := by decide

/-- the CRC loop of the model of `_calculate_crc16` is CRC-16/ARC, for every byte string (the translated
    source equals the model: Props/C04Gen.lean) -/
theorem crc_is_arc (bs : List Nat) : crc16 bs = crc16Arc bs :=
  P1L.crc16_eq_arc bs

theorem crc_lt (bs : List Nat) (h : Octets bs) : crc16Arc bs < 65536 :=
  P1L.crc16Arc_lt bs h

/-- what a successful match of the identification pattern means -/
theorem ident_wellformed (s : List Nat) (m : IdentMatch) (h : identMatch s = some m) :
    ∃ (a b c d : Nat) (escs ident tail : List Nat),
      s = [47, a, b, c, d] ++ escs.flatMap (fun w => [92, w]) ++ ident ++ tail ∧
      Py.isUpper a = true ∧ Py.isUpper b = true ∧ Py.isAlpha c = true ∧ Py.isDigit d = true ∧
      escs.all Py.isWord = true ∧ ident.all Py.isPrintable = true ∧ ident.length ≤ 16 ∧
      (tail = [] ∨ tail = [10] ∨ tail = [13, 10] ∨ tail = [13, 10, 10]) ∧
      m.manid = [a, b, c] ∧ m.ident = (if ident.isEmpty then none else some ident) := by
  unfold identMatch at h
  split at h
  · rename_i a b c d rest
    split at h
    · rename_i hcond
      simp only at h
      split at h
      · rename_i hc2
        obtain ⟨escs, he1, he2⟩ := P1L.dropEscPairs_split rest
        simp only [Bool.and_eq_true] at hcond
        simp only [Bool.and_eq_true, decide_eq_true_eq, Bool.or_eq_true, beq_iff_eq] at hc2
        simp only [Option.some.injEq] at h
        refine ⟨a, b, c, d, escs, (dropEscPairs rest).takeWhile Py.isPrintable,
          (dropEscPairs rest).dropWhile Py.isPrintable, ?_, hcond.1.1.1, hcond.1.1.2, hcond.1.2,
          hcond.2, he2, List.all_takeWhile, hc2.1, ?_, ?_, ?_⟩
        · rw [List.append_assoc _ (List.takeWhile _ _), List.takeWhile_append_dropWhile,
            List.append_assoc, ← he1]
          rfl
        · simpa only [or_assoc] using hc2.2
        · rw [← h]
        · rw [← h]
      · simp at h
    · simp at h
  · simp at h

/-- **C04 (soundness).** A readout reported valid has a well-formed identification line and,
    whenever the text after '!' is a checksum, that checksum equals the CRC-16/ARC of every byte
    from '/' through '!' — including the checksum 0000. -/
theorem valid_sound (raw : List Nat) (r : Readout) (hm : Readout.make raw = .ok r)
    (h : r.isValid = .ok true) :
    (∃ m, r.identLine = .ok m) ∧
    (∀ v, IsChecksumText r.afterBang v → v = crc16Arc (r.bytes.take (r.endPos + 1))) := by
  obtain ⟨⟨h7, m, hid⟩, _, _⟩ := (valid_iff raw r hm).1 h
  exact ⟨⟨m, (P1L.identLine_ok_iff r m).2 ⟨h7, hid⟩⟩, fun v hv =>
    Int.ofNat.inj (valid_checksum_value raw r hm h v (P1L.isEndHexInt_of_checksumText _ _ hv))⟩

/-- **C04.** A readout whose checksum is present and differs from the computed one is never
    reported valid. -/
theorem mismatch_invalid (raw : List Nat) (r : Readout) (hm : Readout.make raw = .ok r) (v : Nat)
    (ht : IsChecksumText r.afterBang v) (hne : v ≠ crc16Arc (r.bytes.take (r.endPos + 1))) :
    r.isValid = .ok false := by
  obtain ⟨b, hb⟩ := P1L.isValid_total r
  cases b with
  | false => exact hb
  | true => exact absurd ((valid_sound raw r hm hb).2 v ht) hne

/-- `is_valid` never raises (every failure of the partial primitives it uses is a ValueError,
    which it catches) -/
theorem isValid_total (r : Readout) : ∃ b, r.isValid = .ok b :=
  P1L.isValid_total r

/-- **C04 (completeness, payload), for the encoded family.** The wire form `d.encode` of a well-formed
    descriptor (identification line, data lines of printable characters other than '/' and '!', each
    with CR LF, then '!' with the correct four-digit checksum or none, CR LF) is accepted by the
    constructor and reported valid; its payload is exactly the bytes between the identification line
    and '!', and the identification groups are the transmitted ones.  (Arbitrary bytes:
    `valid_complete_general`, `valid_iff`.) -/
theorem valid_complete (d : ReadoutDesc) (h : d.WF) :
    Readout.make d.encode = .ok (expectedReadout d) ∧
    (expectedReadout d).isValid = .ok true ∧
    (expectedReadout d).payload = d.payload ∧
    (expectedReadout d).identLine =
      .ok { manid := d.man, ident := if d.ident.isEmpty then none else some d.ident } :=
  ⟨P1L.make_encode d h, P1L.exp_isValid d h, P1L.exp_payload d, P1L.exp_identLine d h⟩

/-- the payload of a readout whose first line end comes before its first '!' is exactly the bytes
    strictly between the two -/
theorem payload_exact (raw : List Nat) (r : Readout) (hm : Readout.make raw = .ok r)
    (a p z : List Nat) (hb : r.bytes = a ++ [10] ++ p ++ [33] ++ z) (ha : 10 ∉ a)
    (hp : 33 ∉ a ++ [10] ++ p) : r.payload = p :=
  P1L.payload_exact raw r hm a p z hb ha hp

/-- non-vacuity -/
example : (ReadoutDesc.mk [65, 66, 67] 53 [] [120, 121, 122] [[49, 46, 55, 40, 49, 41]] (some false)).WF := by
  decide

end Amshan.C04
