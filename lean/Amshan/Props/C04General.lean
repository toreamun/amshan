import Amshan.Lemmas.P1ReadoutComplete
/-
  C04 (completeness, general) — `is_valid` on RAW bytes.

  `C04.valid_complete` covers the descriptor family `ReadoutDesc.encode` only.  Here: for EVERY readout
  object the constructor accepts, `is_valid = True` is characterised exactly (`valid_iff`), by three
  independent conditions on the bytes:

    identification  the bytes up to and including the first LF are 7-bit and, stripped, match the
                    identification pattern (`identMatch`, described by `C04.ident_wellformed`);
    data block      no octet of the payload exceeds 0x80   (NOT "is 7-bit": the source tests
                    `char > 0x80`, so the single non-ASCII octet 0x80 passes - checked on the real code);
    end line        the text after '!' is 7-bit and is either all white space or a text
                    `int(text.strip(), 16)` accepts whose value is the CRC-16/ARC of the bytes from '/'
                    through '!'.

  The last condition is spelled out by `IsEndHexInt` (`end_grammar`).  It accepts more than the four hex
  digits of the standard (white space, a sign, `0x`, underscores, any number of digits: the examples at
  the end, all run through the real `DataReadout.is_valid` with the same verdicts); none of this weakens
  soundness: whatever the form, the VALUE must equal the CRC (`valid_checksum_value`).  `int()` itself
  skips only C white space (`int16_grammar`); the separators 0x1C..0x1F are accepted around the number
  only because the library strips the text first (`isEndHexInt_iff_strip`).

  `valid_complete_general` is the property's sentence for arbitrary bytes; `valid_iff_bytes` states the
  equivalence directly on a byte string cut at its first LF and first '!'.
-/
namespace Amshan.C04
open Amshan.Gen Amshan.P1 Amshan.P1Spec Amshan.Py Amshan.P1L

/-- **which texts `int(text, 16)` accepts**: the model of the built-in succeeds with value `v` exactly
    on: C white space (32, 9..13; not 0x1C..0x1F), optional sign, optional `0x`/`0X` (+ one optional
    underscore), hex digits with single underscores strictly between digits, C white space -/
theorem int16_grammar (t : List Nat) (v : Int) : Py.intBase16 t = .ok v ↔ IsPyHexInt t v :=
  intCore16_ok_iff isBytesSpace not_isBytesSpace_of_not_isStrSpace t v

/-- **which texts `int(text.strip(), 16)` accepts** (the composite of `expected_checksum`): the same
    grammar with the white space of `str.strip()` (32, 9..13, 0x1C..0x1F) around the number -/
theorem end_grammar (t : List Nat) (v : Int) : Py.intBase16 (Py.strip t) = .ok v ↔ IsEndHexInt t v :=
  intBase16_strip_ok_iff t v

/-- the composite grammar is `int()`'s own grammar on the stripped text -/
theorem isEndHexInt_iff_strip (t : List Nat) (v : Int) : IsEndHexInt t v ↔ IsPyHexInt (Py.strip t) v := by
  rw [← end_grammar, ← int16_grammar]

/-- `int()` on its own does not skip the separators 0x1C..0x1F (CPython: ValueError), `str.strip()`
    does; C white space is skipped by both -/
example : Py.intBase16 [0x1f, 49, 70] = .error .valueError ∧ Py.intBase16 [49, 70, 0x1c] = .error .valueError ∧
    Py.intBase16 [32, 49, 70] = .ok 31 ∧ Py.intBase16 [0x0b, 49, 70, 0x0c] = .ok 31 ∧
    Py.intBase16 (Py.strip [0x1f, 49, 70, 0x1c]) = .ok 31 := by decide

def IdentOk (r : Readout) : Prop :=
  (∀ x ∈ r.bytes.take r.dataPos, x < 128) ∧ ∃ m, identMatch (strip (r.bytes.take r.dataPos)) = some m

def DataOk (r : Readout) : Prop := ∀ x ∈ r.payload, x ≤ 0x80

def EndOk (r : Readout) : Prop :=
  (∀ x ∈ r.afterBang, x < 128) ∧
  (r.afterBang.all isStrSpace = true ∨
   IsEndHexInt r.afterBang (crc16Arc (r.bytes.take (r.endPos + 1)) : Nat))

/-- **C04 (validity, exactly).** For every readout object the constructor accepts:
    `is_valid = True` iff the identification line, the data block and the end line check out. -/
theorem valid_iff (raw : List Nat) (r : Readout) (hm : Readout.make raw = .ok r) :
    r.isValid = .ok true ↔ IdentOk r ∧ DataOk r ∧ EndOk r :=
  isValid_true_iff r r.afterBang (make_drop_endPos raw r hm)

/-- … and `is_valid = False` in every other case (it never raises) -/
theorem invalid_iff (raw : List Nat) (r : Readout) (hm : Readout.make raw = .ok r) :
    r.isValid = .ok false ↔ ¬ (IdentOk r ∧ DataOk r ∧ EndOk r) := by
  rw [← valid_iff raw r hm]
  obtain ⟨b, hb⟩ := isValid_total r
  rw [hb]
  cases b <;> simp

/-- soundness for EVERY accepted checksum form: in a readout reported valid, whatever text after
    '!' `int(text.strip(), 16)` accepts, its value is the CRC-16/ARC of the bytes from '/' through '!' -/
theorem valid_checksum_value (raw : List Nat) (r : Readout) (hm : Readout.make raw = .ok r)
    (h : r.isValid = .ok true) (v : Int) (hv : IsEndHexInt r.afterBang v) :
    v = (crc16Arc (r.bytes.take (r.endPos + 1)) : Nat) := by
  obtain ⟨_, _, _, hend⟩ := (valid_iff raw r hm).1 h
  rcases hend with hsp | hcrc
  · exact absurd hsp (isEndHexInt_not_space _ _ hv)
  · have h1 := (end_grammar _ _).2 hv
    rw [(end_grammar _ _).2 hcrc] at h1
    exact (Except.ok.inj h1).symm

/-- **C04 (completeness, general).** The property's sentence for arbitrary bytes: the constructor
    accepts `raw`; the identification line (everything up to the first LF) is 7-bit and matches the
    pattern; no data octet exceeds 0x80 (which holds in particular when the readout is all-ASCII); the text after
    '!' is empty, a bare line end, or exactly four hex digits in either case - optionally followed by
    CR LF or LF - whose value is the CRC-16/ARC of the bytes from '/' through '!'.  Then `is_valid`. -/
theorem valid_complete_general (raw : List Nat) (r : Readout) (hm : Readout.make raw = .ok r)
    (hid7 : ∀ x ∈ r.bytes.take r.dataPos, x < 128)
    (hid : ∃ m, identMatch (strip (r.bytes.take r.dataPos)) = some m)
    (hdata : ∀ x ∈ r.payload, x ≤ 0x80)
    (hend : r.afterBang = [] ∨ r.afterBang = [10] ∨ r.afterBang = [13, 10] ∨
      IsChecksumText r.afterBang (crc16Arc (r.bytes.take (r.endPos + 1)))) :
    r.isValid = .ok true := by
  refine (valid_iff raw r hm).2 ⟨⟨hid7, hid⟩, hdata, ?_⟩
  rcases hend with h | h | h | h
  · rw [EndOk, h]; exact ⟨by simp, Or.inl rfl⟩
  · rw [EndOk, h]; exact ⟨by decide, Or.inl rfl⟩
  · rw [EndOk, h]; exact ⟨by decide, Or.inl rfl⟩
  · exact ⟨checksumText_ascii _ _ h, Or.inr (isEndHexInt_of_checksumText _ _ h)⟩

/-- the all-ASCII form -/
theorem valid_complete_ascii (raw : List Nat) (r : Readout) (hm : Readout.make raw = .ok r)
    (hascii : ∀ x ∈ r.bytes, x < 128)
    (hid : ∃ m, identMatch (strip (r.bytes.take r.dataPos)) = some m)
    (hend : r.afterBang = [] ∨ r.afterBang = [10] ∨ r.afterBang = [13, 10] ∨
      IsChecksumText r.afterBang (crc16Arc (r.bytes.take (r.endPos + 1)))) :
    r.isValid = .ok true := by
  refine valid_complete_general raw r hm (fun x hx => hascii x (List.mem_of_mem_take hx)) hid ?_ hend
  intro x hx
  have : x ∈ r.bytes := by
    unfold Readout.payload slice at hx
    exact List.mem_of_mem_take (List.mem_of_mem_drop hx)
  have := hascii x this
  omega

/-- **on the bytes themselves.**  A byte string cut at its first LF and its first '!':
    leading white space `ws`, '/' `line` LF `data` '!' `after` (no LF in `line`, no '!' before the end
    character).  The constructor accepts it, the payload is `data`, and it is valid iff … -/
theorem valid_iff_bytes (ws line data after : List Nat) (hws : ws.all isBytesSpace = true)
    (hl : 10 ∉ line) (hb : 33 ∉ line ++ [10] ++ data) :
    ∃ r, Readout.make (ws ++ (47 :: line ++ [10] ++ data ++ [33] ++ after)) = .ok r ∧
      r.bytes = 47 :: line ++ [10] ++ data ++ [33] ++ after ∧ r.payload = data ∧ r.afterBang = after ∧
      (r.isValid = .ok true ↔
        (∀ x ∈ line, x < 128) ∧ (∃ m, identMatch (strip (47 :: line ++ [10])) = some m) ∧
        (∀ x ∈ data, x ≤ 0x80) ∧ (∀ x ∈ after, x < 128) ∧
        (after.all isStrSpace = true ∨
         IsEndHexInt after (crc16Arc (47 :: line ++ [10] ++ data ++ [33]) : Nat))) := by
  have hmk := make_cut ws line data after hws hl hb
  refine ⟨_, hmk, rfl, cut_payload _ _ _, cut_afterBang _ _ _, ?_⟩
  rw [isValid_true_iff _ _ (cut_drop_endPos line data after), cut_payload, cut_take_dataPos,
    cut_take_endPos]
  constructor
  · rintro ⟨⟨h1, h2⟩, h3, h4, h5⟩
    exact ⟨fun x hx => h1 x (by simp [hx]), h2, h3, h4, h5⟩
  · rintro ⟨h1, h2, h3, h4, h5⟩
    refine ⟨⟨?_, h2⟩, h3, h4, h5⟩
    intro x hx
    simp only [List.cons_append, List.mem_cons, List.mem_append, List.not_mem_nil, or_false] at hx
    rcases hx with rfl | hx | rfl
    · decide
    · exact h1 x hx
    · decide

/-- without an LF there is no identification line: never valid -/
theorem no_lf_invalid (raw : List Nat) (r : Readout) (hm : Readout.make raw = .ok r) (h : 10 ∉ r.bytes) :
    r.isValid = .ok false := by
  rw [invalid_iff raw r hm]
  rintro ⟨⟨_, m, hid⟩, _⟩
  obtain ⟨_, _, _, hdp⟩ := make_ok raw r hm
  rw [find_none_of_not_mem _ _ h] at hdp
  rw [hdp] at hid
  simp [strip, rstripWith, identMatch] at hid

/-! ### non-vacuity on real readouts (tests/test_dlde.py), neither of which is a `ReadoutDesc.encode` -/

set_option maxRecDepth 100000

def asc (x : String) : List Nat := x.toList.map Char.toNat

/-- EXAMPLE_DATA_A_LANDISGYR_360: 702 octets, ends `!A077` WITHOUT a line end -/
def exampleA : List Nat := List.flatten [
  asc "/LGF5E360\r\n",
  asc "\r\n",
  asc "0-0:1.0.0(210222161900W)\r\n",
  asc "1-0:1.8.0(00000896.020*kWh)\r\n",
  asc "1-0:2.8.0(00000048.792*kWh)\r\n",
  asc "1-0:3.8.0(00000518.309*kVArh)\r\n",
  asc "1-0:4.8.0(00000023.732*kVArh)\r\n",
  asc "1-0:1.7.0(0000.000*kW)\r\n",
  asc "1-0:2.7.0(0000.020*kW)\r\n",
  asc "1-0:3.7.0(0000.000*kVAr)\r\n",
  asc "1-0:4.7.0(0000.308*kVAr)\r\n",
  asc "1-0:21.7.0(0000.000*kW)\r\n",
  asc "1-0:22.7.0(0000.012*kW)\r\n",
  asc "1-0:41.7.0(0000.000*kW)\r\n",
  asc "1-0:42.7.0(0000.071*kW)\r\n",
  asc "1-0:61.7.0(0000.063*kW)\r\n",
  asc "1-0:62.7.0(0000.000*kW)\r\n",
  asc "1-0:23.7.0(0000.000*kVAr)\r\n",
  asc "1-0:24.7.0(0000.146*kVAr)\r\n",
  asc "1-0:43.7.0(0000.000*kVAr)\r\n",
  asc "1-0:44.7.0(0000.135*kVAr)\r\n",
  asc "1-0:63.7.0(0000.000*kVAr)\r\n",
  asc "1-0:64.7.0(0000.026*kVAr)\r\n",
  asc "1-0:32.7.0(230.1*V)\r\n",
  asc "1-0:52.7.0(232.2*V)\r\n",
  asc "1-0:72.7.0(230.4*V)\r\n",
  asc "1-0:31.7.0(000.6*A)\r\n",
  asc "1-0:51.7.0(000.6*A)\r\n",
  asc "1-0:71.7.0(000.3*A)\r\n",
  asc "!A077"]

/-- EXAMPLE_DATA_KAMSTRUP: 702 octets, begins with CR LF before '/', identification `/KAM5` without
    identification field, ends `!92F5` CR LF -/
def exampleKamstrup : List Nat := List.flatten [
  asc "\r\n",
  asc "/KAM5\r\n",
  asc "\r\n",
  asc "0-0:1.0.0(220408135021W)\r\n",
  asc "1-0:1.8.0(00060995.424*kWh)\r\n",
  asc "1-0:2.8.0(00000000.000*kWh)\r\n",
  asc "1-0:3.8.0(00000012.696*kVArh)\r\n",
  asc "1-0:4.8.0(00012541.802*kVArh)\r\n",
  asc "1-0:1.7.0(0002.202*kW)\r\n",
  asc "1-0:2.7.0(0000.000*kW)\r\n",
  asc "1-0:3.7.0(0000.000*kVAr)\r\n",
  asc "1-0:4.7.0(0000.505*kVAr)\r\n",
  asc "1-0:21.7.0(0001.947*kW)\r\n",
  asc "1-0:41.7.0(0000.063*kW)\r\n",
  asc "1-0:61.7.0(0000.192*kW)\r\n",
  asc "1-0:22.7.0(0000.000*kW)\r\n",
  asc "1-0:42.7.0(0000.000*kW)\r\n",
  asc "1-0:62.7.0(0000.000*kW)\r\n",
  asc "1-0:23.7.0(0000.000*kVAr)\r\n",
  asc "1-0:43.7.0(0000.000*kVAr)\r\n",
  asc "1-0:63.7.0(0000.000*kVAr)\r\n",
  asc "1-0:24.7.0(0000.204*kVAr)\r\n",
  asc "1-0:44.7.0(0000.095*kVAr)\r\n",
  asc "1-0:64.7.0(0000.206*kVAr)\r\n",
  asc "1-0:32.7.0(235.5*V)\r\n",
  asc "1-0:52.7.0(239.5*V)\r\n",
  asc "1-0:72.7.0(239.1*V)\r\n",
  asc "1-0:31.7.0(008.3*A)\r\n",
  asc "1-0:51.7.0(000.4*A)\r\n",
  asc "1-0:71.7.0(001.4*A)\r\n",
  asc "!92F5\r\n"]

/-- every hypothesis of `valid_complete_ascii` holds for EXAMPLE_DATA_A; the conclusion is the test
    suite's `assert readout.is_valid` -/
example : ∃ r, Readout.make exampleA = .ok r ∧ r.endPos = 697 ∧ r.dataPos = 11 ∧ r.afterBang = asc "A077" ∧
    r.isValid = .ok true := by
  -- one evaluation for all facts: within one check the kernel keeps what it has computed of `exampleA`
  have h : Readout.make exampleA = .ok ⟨exampleA, 697, 11⟩ ∧ exampleA.drop 698 = [65, 48, 55, 55] ++ [] ∧
      (∀ x ∈ exampleA, x < 128) ∧ identMatch (strip (exampleA.take 11)) = some ⟨asc "LGF", some (asc "E360")⟩ ∧
      crc16Arc (exampleA.take 698) = ((10 * 16 + 0) * 16 + 7) * 16 + 7 := by decide +kernel
  obtain ⟨hm, hab, hasc, hid, hcrc⟩ := h
  refine ⟨_, hm, rfl, rfl, hab, valid_complete_ascii _ _ hm hasc ⟨_, hid⟩ ?_⟩
  exact Or.inr (Or.inr (Or.inr ⟨65, 48, 55, 55, 10, 0, 7, 7, [], hab, by decide, by decide, by decide,
    by decide, hcrc, Or.inl rfl⟩))

/-- … and for EXAMPLE_DATA_KAMSTRUP (leading CR LF stripped by the constructor) -/
example : ∃ r, Readout.make exampleKamstrup = .ok r ∧ r.bytes = exampleKamstrup.drop 2 ∧ r.endPos = 693 ∧
    r.dataPos = 7 ∧ r.afterBang = asc "92F5\r\n" ∧ r.isValid = .ok true := by
  have h : Readout.make exampleKamstrup = .ok ⟨exampleKamstrup.drop 2, 693, 7⟩ ∧
      (exampleKamstrup.drop 2).drop 694 = [57, 50, 70, 53] ++ [13, 10] ∧
      (∀ x ∈ exampleKamstrup.drop 2, x < 128) ∧
      identMatch (strip ((exampleKamstrup.drop 2).take 7)) = some ⟨asc "KAM", none⟩ ∧
      crc16Arc ((exampleKamstrup.drop 2).take 694) = ((9 * 16 + 2) * 16 + 15) * 16 + 5 := by decide +kernel
  obtain ⟨hm, hab, hasc, hid, hcrc⟩ := h
  refine ⟨_, hm, rfl, rfl, rfl, hab, valid_complete_ascii _ _ hm hasc ⟨_, hid⟩ ?_⟩
  exact Or.inr (Or.inr (Or.inr ⟨57, 50, 70, 53, 9, 2, 15, 5, [13, 10], hab, by decide, by decide, by decide,
    by decide, hcrc, Or.inr (Or.inr rfl)⟩))

/-! ### the conditions that look surprising, on a short readout (all verdicts as on the real code) -/

/-- "/LGF5E360" CR LF, one data line, '!' ; CRC-16/ARC 0x92E5 -/
def shortBody : List Nat := asc "/LGF5E360\r\n0-0:1.0.0(210222161900W)\r\n!"

example : crc16Arc shortBody = 0x92E5 := by decide +kernel

def shortWith (e : String) : Readout := ⟨shortBody ++ asc e, 37, 11⟩

/-- accepted forms of the checksum 0x92E5: lower case, `0x`, `0X_`, `+`, underscores between digits,
    white space around (also before the digits and the separator 0x1F), leading zeros, VT FF as line
    end; and no checksum at all, or only white space -/
example : ∀ e ∈ ["92E5", "92e5", "0x92E5", "0X_92E5", "+92E5", "9_2_E_5", " 92E5 \x1f", "\t92E5", "00092E5",
    "92E5\x0b\x0c", "", " \x1c\r\n"],
    Readout.make (shortBody ++ asc e) = .ok (shortWith e) ∧ EndOk (shortWith e) ∧ (shortWith e).isValid = .ok true := by
  suffices h : ∀ e ∈ (_ : List String),
      Readout.make (shortBody ++ asc e) = .ok (shortWith e) ∧ (shortWith e).isValid = .ok true from
    fun e he => ⟨(h e he).1, ((valid_iff _ _ (h e he).1).1 (h e he).2).2.2, (h e he).2⟩
  decide +kernel

/-- rejected: trailing text, a minus sign, three digits (another value), a bare prefix, an underscore
    at either end, a double underscore -/
example : ∀ e ∈ ["92E5 x", "-92E5", "92E", "0x", "_92E5", "92E5_", "9__2E5"],
    Readout.make (shortBody ++ asc e) = .ok (shortWith e) ∧ ¬ EndOk (shortWith e) ∧
    (shortWith e).isValid = .ok false := by
  suffices h : ∀ e ∈ (_ : List String),
      Readout.make (shortBody ++ asc e) = .ok (shortWith e) ∧ (shortWith e).isValid = .ok false ∧
      (∀ x ∈ (shortWith e).bytes.take (shortWith e).dataPos, x < 128) ∧
      identMatch (strip ((shortWith e).bytes.take (shortWith e).dataPos)) = some ⟨asc "LGF", some (asc "E360")⟩ ∧
      (∀ x ∈ (shortWith e).payload, x ≤ 0x80) by
    intro e he
    obtain ⟨hm, hv, h7, hid, hd⟩ := h e he
    refine ⟨hm, fun hend => ?_, hv⟩
    have := (valid_iff _ _ hm).2 ⟨⟨h7, _, hid⟩, hd, hend⟩
    rw [hv] at this
    cases this
  decide +kernel

/-- `char > 0x80`: the octet 0x80 in the data block passes (0x81 does not), although the readout is
    not ASCII.  (The identification line and the end line ARE required to be 7-bit: they are decoded.) -/
example :
    let b80 : List Nat := asc "/LGF5E360\r\n0-0:1.0.0(2102" ++ [0x80] ++ asc ")\r\n!\r\n"
    let b81 : List Nat := asc "/LGF5E360\r\n0-0:1.0.0(2102" ++ [0x81] ++ asc ")\r\n!\r\n"
    (∃ r, Readout.make b80 = .ok r ∧ 0x80 ∈ r.payload ∧ r.isValid = .ok true) ∧
    (∃ r, Readout.make b81 = .ok r ∧ r.isValid = .ok false) := by
  intro b80 b81
  exact ⟨⟨⟨b80, 29, 11⟩, by decide +kernel, by decide +kernel, by decide +kernel⟩,
    ⟨⟨b81, 29, 11⟩, by decide +kernel, by decide +kernel⟩⟩

/-- the first LF may come AFTER '!': "/ABC5!" LF is valid (identification "/ABC5!" with identification
    field "!", empty payload, no checksum); so is "/ABC5!7409" LF, 0x7409 being the CRC of "/ABC5!".
    Without any LF there is no identification line (`no_lf_invalid`). -/
example : (∃ r, Readout.make (asc "/ABC5!\n") = .ok r ∧ r.payload = [] ∧ r.isValid = .ok true) ∧
    (∃ r, Readout.make (asc "/ABC5!7409\n") = .ok r ∧ r.payload = [] ∧ r.isValid = .ok true) ∧
    (∃ r, Readout.make (asc "/ABC5!") = .ok r ∧ r.isValid = .ok false) := by
  have h3 : Readout.make (asc "/ABC5!") = .ok ⟨asc "/ABC5!", 5, 0⟩ := by decide +kernel
  exact ⟨⟨⟨asc "/ABC5!\n", 5, 7⟩, by decide +kernel, by decide +kernel, by decide +kernel⟩,
    ⟨⟨asc "/ABC5!7409\n", 5, 11⟩, by decide +kernel, by decide +kernel, by decide +kernel⟩,
    ⟨_, h3, no_lf_invalid _ _ h3 (by decide +kernel)⟩⟩

end Amshan.C04
