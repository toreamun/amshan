import Amshan.Lemmas.HdlcTotal
/-
  C14 (HDLC part) — read() never raises and every returned frame answers its accessors without
  raising.  `Model/HdlcExc.lean` re-states the reader with partial primitives (`pyIndex`,
  `pyLastViaSlice`, `assert`/attribute access on None) that DO fail on some inputs; the theorems
  show every call site is guarded: the Except-valued functions return `.ok` of the pure model.
-/
namespace Amshan.C14
open Amshan.Gen Amshan.Hdlc

/-- the primitives are genuinely partial -/
example : pyIndex [1, 2] 2 = .error .indexError := by decide
example : pyLastViaSlice [] = .error .indexError := by decide

theorem frameFormatE_ok (f : Frame) : f.frameFormatE = .ok f.frameFormat :=
  Amshan.Hdlc.Frame.frameFormatE_ok f

theorem getAddressE_ok (d : List Nat) (pos : Nat) : getAddressE d pos = .ok (getAddress d pos) :=
  Amshan.Hdlc.getAddressE_ok d pos

theorem controlE_ok (f : Frame) : f.controlE = .ok f.control := by
  unfold Frame.controlE Frame.control
  cases f.ctlPos with
  | none => rfl
  | some p =>
    dsimp only
    split
    · next hl =>
      have hl' : p < f.data.length := hl
      rw [pyIndex_of_lt f.data p hl', List.getElem?_eq_getElem hl']
      rfl
    · rfl

theorem hcsE_ok (f : Frame) : f.hcsE = .ok f.hcs :=
  Amshan.Hdlc.Frame.hcsE_ok f

/-- holds for every frame object (`Frame.fcsFieldE_ok`); the hypothesis is not used -/
theorem fcsFieldE_ok (f : Frame) (h : FrameInv f) : f.fcsFieldE = .ok f.fcsField :=
  (fun _ => Amshan.Hdlc.Frame.fcsFieldE_ok f) h

theorem isValidE_ok (f : Frame) : f.isValidE = .ok f.isValid := by
  unfold Frame.isValidE Frame.isValid
  cases f.isGoodFfc with
  | true => simp only [if_true, Bool.true_and, Frame.isExpectedLengthE_ok]
  | false => simp only [Bool.false_eq_true, if_false, Bool.false_and, pure_eq_ok]

theorem readNextE_ok (cfg : Cfg) (c : Core) (x : Nat) : readNextE cfg c x = .ok (readNext cfg c x) :=
  Amshan.Hdlc.readNextE_ok cfg c x

/-- **C14 (HDLC reader).** For every reader state, configuration and chunk, `read()` returns
    (never raises), and what it returns is what the pure model computes. -/
theorem readE_ok (cfg : Cfg) (r : Reader) (chunk : List Nat) :
    readE cfg r chunk = .ok (read cfg r chunk) :=
  Amshan.Hdlc.readE_ok cfg r chunk

end Amshan.C14
