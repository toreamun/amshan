import Amshan.Props.C06GenRead
import Amshan.Props.C05GenRead
/-
  C19 (tie by translation, buffer level) — the theorems of this property bound what the reader objects retain
  (`Hdlc.Reader.size` over `Hdlc.read` / `Hdlc.readAll`, `P1.Reader.size` over `P1.read`).  These statements re-export,
  under this property, that `HdlcFrameReader.read` / `ModeDReader.read` and their `_ReaderBuffer`s as mechanically
  translated from the current source are the models' `read` (Props/C06GenRead.lean, Props/C05GenRead.lean), and add
  the size actually held by the Python-level state: the WHOLE bytearray (consumed octets included) is what
  `Reader.size` counts.
-/
namespace Amshan.C19
open Amshan.Hdlc Amshan.GenCode Amshan.GenLemmas

/-- the translated `read` is the model's `read` -/
theorem gen_hdlc_read (cfg : Cfg) (r : PyReader) (chunk : List Nat) (hr : ReaderInv r) :
    absReader (hdlcRdRead cfg r chunk).1 = (Hdlc.read cfg (absReader r) chunk).1 ∧
      (hdlcRdRead cfg r chunk).2 = (Hdlc.read cfg (absReader r) chunk).2 ∧ ReaderInv (hdlcRdRead cfg r chunk).1 :=
  ⟨(C06.gen_read cfg r chunk hr).1, (C06.gen_read cfg r chunk hr).2, C06.gen_read_preserves_inv cfg r chunk hr⟩

/-- the model's `Buf.size` is the length of the Python bytearray (under the invariant): nothing that the object
    retains is forgotten by the abstraction -/
theorem gen_hdlc_buf_size (b : PyBuf) (hb : BufInv b) : (absBuf b).size = b.buffer.length :=
  pos_add_length_drop hb

/-- the translated `ModeDReader.read` is the model's `read` -/
theorem gen_p1_read (r : P1PyReader) (chunk : List Nat) (hr : P1ReaderInv r) :
    p1AbsAnswer (p1RdRead r chunk) = P1.read (p1AbsReader r) chunk ∧
      (∀ p, p1RdRead r chunk = .ok p → P1ReaderInv p.1) :=
  ⟨C05.gen_p1_read r chunk hr, C05.gen_p1_read_preserves_inv r chunk hr⟩

/-- the model's `P1.Buf.size` is the length of the Python bytearray (under the invariant) -/
theorem gen_p1_buf_size (b : PyBuf) (hb : P1BufInv b) : (p1AbsBuf b).size = b.buffer.length :=
  pos_add_length_drop hb

end Amshan.C19
