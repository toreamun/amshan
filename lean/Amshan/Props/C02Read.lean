import Amshan.Props.C02
import Amshan.Lemmas.HdlcReadLevel
/-
  C02 at the entry point: what the caller of `read()` sees through the accessors of the returned frames
  is, frame by frame and in order, what was sent (`clean_stream_observed`); and the same delivery for
  readers that are not new — hunting (e.g. after a discarded frame) or between two frames (e.g. one
  that has just returned a frame).
-/
namespace Amshan.C02
open Amshan.Gen Amshan.Hdlc Amshan.HdlcSpec Amshan.HdlcClean

/-- what a caller can observe of a returned frame -/
structure Seen where
  valid : Bool
  octets : List Nat
  payload : Option (List Nat)
  dest : Option (List Nat)
  src : Option (List Nat)
  control : Option Nat
  frameLength : Option Nat
  formatType : Option Nat
  segmentation : Option Bool
  deriving DecidableEq, Repr

/-- `is_valid`, `as_bytes`, `payload` and the header accessors of a returned frame -/
def see (f : Frame) : Seen :=
  { valid := f.isValid, octets := f.data, payload := f.payload, dest := f.dest, src := f.src,
    control := f.control, frameLength := f.frameLength, formatType := f.formatType,
    segmentation := f.segmentation }

/-- what was sent: valid, the encoded octets, the information field (None for a header-only frame),
    the addresses, control, announced length, format type, segmentation bit -/
def sent (d : FrameDesc) : Seen :=
  { valid := true, octets := d.encode, payload := if d.info.isEmpty then none else some d.info,
    dest := some d.dst, src := some d.src, control := some d.ctl, frameLength := some d.totalLen,
    formatType := some d.fmt, segmentation := some d.seg }

theorem see_expectedFrame (d : FrameDesc) (h : d.WF) : see (expectedFrame d) = sent d := by
  obtain ⟨h1, h2, h3, h4, h5, h6, h7, h8, h9⟩ := expected_observation d h
  simp only [see, sent, h1, h2, h3, h4, h5, h6, h7, h8, h9]

/-- **C02, as seen by the caller of `read()`.** On a clean stream (flag-free noise, well-formed
    frames of the configuration's domain separated by one or more flags), however it is split into
    `read()` calls, the frames returned show — in order, one per frame sent, nothing else —
    `is_valid = True`, the exact octets, payload and header fields of the frames sent. -/
theorem clean_stream_observed (cfg : Cfg) (noise : List Nat) (fs : List (FrameDesc × Nat))
    (closing : Nat) (chunks : List (List Nat))
    (hnoise : Octets noise ∧ flag ∉ noise)
    (hfs : ∀ p ∈ fs, p.1.WF ∧ 1 ≤ p.2 ∧ InDomain cfg.stuffing cfg.abort p.1)
    (hcl : 1 ≤ closing)
    (hch : chunks.flatten = wire cfg.stuffing noise fs closing) :
    (readAll cfg Reader.init chunks).2.flatten.map see = fs.map (fun p => sent p.1) := by
  rw [clean_stream_delivered cfg noise fs closing chunks hnoise hfs hcl hch, List.map_map]
  apply List.map_congr_left
  intro p hp
  exact see_expectedFrame p.1 (hfs p hp).1

/-- **C02 for a reader that is not new but hunting** (any reachable reader without a frame in
    progress — after noise, after a discarded, aborted or over-long frame): same delivery. -/
theorem clean_stream_delivered_hunting (cfg : Cfg) (r : Reader) (hr : Reachable cfg r)
    (hh : r.core.frame = none)
    (noise : List Nat) (fs : List (FrameDesc × Nat)) (closing : Nat) (chunks : List (List Nat))
    (hnoise : flag ∉ noise)
    (hfs : ∀ p ∈ fs, p.1.WF ∧ 1 ≤ p.2 ∧ InDomain cfg.stuffing cfg.abort p.1)
    (hcl : 1 ≤ closing)
    (hch : chunks.flatten = wire cfg.stuffing noise fs closing) :
    (readAll cfg r chunks).2.flatten = fs.map (fun p => expectedFrame p.1) := by
  rw [hr.frames_eq_run chunks, hch]
  exact clean_run_from cfg r.core noise fs closing (Or.inl hh) hnoise hfs hcl

/-- **C02 for a reader between two frames** (any reachable reader whose frame in progress is empty:
    it has just returned a frame, or has just read a flag): the clean stream without noise is
    delivered completely. -/
theorem clean_stream_delivered_between_frames (cfg : Cfg) (r : Reader) (hr : ReachableOct cfg r)
    (f : Frame) (hf : r.core.frame = some f) (h0 : f.len = 0)
    (fs : List (FrameDesc × Nat)) (closing : Nat) (chunks : List (List Nat))
    (hfs : ∀ p ∈ fs, p.1.WF ∧ 1 ≤ p.2 ∧ InDomain cfg.stuffing cfg.abort p.1)
    (hcl : 1 ≤ closing)
    (hch : chunks.flatten = wire cfg.stuffing [] fs closing) :
    (readAll cfg r chunks).2.flatten = fs.map (fun p => expectedFrame p.1) := by
  rw [hr.frames_eq_run chunks, hch]
  exact clean_run_from cfg r.core [] fs closing
    (Or.inr ⟨rfl, _, _, core_empty_shape r.core hr.coreInv f hf h0⟩) (by simp) hfs hcl

/-! ### non-vacuity, on real frames (tests/test_hdlc.py)

  `fKaifa` FRAME_WITH_FLAG_SEQUENCE_CHARACTER_IN_INFO (flag octet inside the information field),
  `fAidon` FRAME_WITH_ESCAPE_CHARACTER_IN_INFO (escape octet inside the information field),
  `fEmpty` FRAME_EMPTY_INFO (header only). -/
namespace ReadWitness
set_option linter.defProp false

def fKaifa : FrameDesc :=
  { fmt := 10, seg := false, dst := [0x01], src := [0x02, 0x01], ctl := 0x10,
    info := [0xE6, 0xE7, 0x00, 0x0F, 0x40, 0x00, 0x00, 0x00, 0x09, 0x0C, 0x07, 0xE4, 0x02, 0x0F, 0x06, 0x01, 0x19,
             0x22, 0xFF, 0x80, 0x00, 0x00, 0x02, 0x01, 0x06, 0x00, 0x00, 0x15, 0x7E] }

def fAidon : FrameDesc :=
  { fmt := 10, seg := false, dst := [0x41], src := [0x08, 0x83], ctl := 0x13,
    info := [0xE6, 0xE7, 0x00, 0x0F, 0x40, 0x00, 0x00, 0x00, 0x00, 0x01, 0x01, 0x02, 0x03, 0x09, 0x06, 0x01, 0x00,
             0x01, 0x07, 0x00, 0xFF, 0x06, 0x00, 0x00, 0x06, 0x7D, 0x02, 0x02, 0x0F, 0x00, 0x16, 0x1B] }

def fEmpty : FrameDesc := { fmt := 10, seg := false, dst := [0x01], src := [0x02, 0x01], ctl := 0x10, info := [] }

/-- the Spec encoder reproduces the captured octets, check sequences included -/
example : fKaifa.encode = [0xA0, 0x27, 0x01, 0x02, 0x01, 0x10, 0x5A, 0x87] ++ fKaifa.info ++ [0xEA, 0x5E] ∧
    fAidon.encode = [0xA0, 0x2A, 0x41, 0x08, 0x83, 0x13, 0x04, 0x13] ++ fAidon.info ++ [0x1C, 0x05] ∧
    fEmpty.encode = [0xA0, 0x08, 0x01, 0x02, 0x01, 0x10, 0x37, 0x8D] := by
  decide +kernel

def noise : List Nat := [0xC3, 0x00, 0x7D, 0x41]
def frames : List (FrameDesc × Nat) := [(fKaifa, 1), (fAidon, 3), (fEmpty, 2)]

/-- every octet in a `read()` call of its own -/
def bytewise (w : List Nat) : List (List Nat) := w.map ([·])

def bytewise_flatten (w : List Nat) : (bytewise w).flatten = w := by
  induction w with
  | nil => rfl
  | cons a t ih => simpa [bytewise] using ih

def hframes (cfg : Cfg) : ∀ p ∈ frames, p.1.WF ∧ 1 ≤ p.2 ∧ InDomain cfg.stuffing cfg.abort p.1 := by
  obtain ⟨s, a⟩ := cfg
  cases s <;> cases a <;> decide +kernel

/-- `clean_stream_observed`, all four configurations, octet by octet: all hypotheses hold, and the
    conclusion spelt out for the first frame -/
example (cfg : Cfg) :
    (readAll cfg Reader.init (bytewise (wire cfg.stuffing noise frames 2))).2.flatten.map see =
      [sent fKaifa, sent fAidon, sent fEmpty] ∧
    (sent fKaifa).valid = true ∧ (sent fKaifa).payload = some fKaifa.info ∧
    (sent fKaifa).dest = some [0x01] ∧ (sent fKaifa).frameLength = some 39 ∧ (sent fEmpty).payload = none :=
  ⟨clean_stream_observed cfg noise frames 2 _ (by decide) (hframes cfg) (by decide) (bytewise_flatten _),
   rfl, rfl, rfl, by decide, rfl⟩

/-- a reachable reader that is hunting: it was given noise and a frame start that was aborted
    (`A0 27 01 02 01 10 5A 87 E6 7D 7E`, abort detection on, then a second flag-free junk octet) -/
def histHunt : List (List Nat) := [[0x00, 0x7E, 0xA0, 0x27, 0x01], [0x02, 0x01, 0x10, 0x5A, 0x87, 0xE6, 0x7D, 0x7E, 0x11]]

example (s : Bool) :
    let cfg : Cfg := ⟨s, true⟩
    let r := (readAll cfg Reader.init histHunt).1
    r.core.frame = none ∧
    (readAll cfg r (bytewise (wire cfg.stuffing noise frames 1))).2.flatten =
      [expectedFrame fKaifa, expectedFrame fAidon, expectedFrame fEmpty] := by
  intro cfg r
  have hh : r.core.frame = none := by
    show (readAll cfg Reader.init histHunt).1.core.frame = none
    rw [readAll_core cfg Reader.init histHunt Reader.init_buf]
    cases s <;> decide +kernel
  exact ⟨hh, clean_stream_delivered_hunting cfg r ⟨histHunt, rfl⟩ hh noise frames 1 _ (by decide)
    (hframes cfg) (by decide) (bytewise_flatten _)⟩

/-- a reachable reader between two frames: it has just returned the real Kaifa frame -/
def histDone : List (List Nat) := [[0x7E] ++ fKaifa.encode.take 17, fKaifa.encode.drop 17 ++ [0x7E]]

example :
    let cfg : Cfg := ⟨false, true⟩
    let r := (readAll cfg Reader.init histDone).1
    (readAll cfg Reader.init histDone).2.flatten = [expectedFrame fKaifa] ∧
    (∃ f, r.core.frame = some f ∧ f.len = 0) ∧
    (readAll cfg r (bytewise (wire cfg.stuffing [] frames 1))).2.flatten =
      [expectedFrame fKaifa, expectedFrame fAidon, expectedFrame fEmpty] := by
  intro cfg r
  have hc : r.core = (run cfg Core.init histDone.flatten).1 :=
    readAll_core cfg Reader.init histDone Reader.init_buf
  -- one evaluation of the history
  obtain ⟨h1, h2, ho⟩ : (run cfg Core.init histDone.flatten).1.frame = some Frame.empty ∧
      (run cfg Core.init histDone.flatten).2 = [expectedFrame fKaifa] ∧ Octets histDone.flatten := by
    decide +kernel
  have hf : r.core.frame = some Frame.empty := by rw [hc]; exact h1
  refine ⟨?_, ⟨_, hf, rfl⟩, ?_⟩
  · rw [(ReachableOct.init cfg).frames_eq_run]; exact h2
  · exact clean_stream_delivered_between_frames cfg r ⟨histDone, ho, rfl⟩ _ hf rfl
      frames 1 _ (hframes cfg) (by decide) (bytewise_flatten _)

end ReadWitness

end Amshan.C02
