import Amshan.Props.C04Witness
import Amshan.Props.C04Detect
/-
  C04Detect — non-vacuity: `one_byte_damage_invalid` instantiated on the readout of C04Witness with one
  payload octet changed (position 56: '6' → '7') and the checksum field untouched.  Only `example`s.
-/
namespace Amshan.C04.Witness
open Amshan.Gen Amshan.P1 Amshan.P1Spec Amshan.Py

example : ∃ r, Readout.make (dS.encode.set 56 55) = .ok r ∧ r.isValid = .ok false := by
  -- all hypotheses in one evaluation: the kernel keeps what it has computed only within one check, and a string
  -- literal costs it some 18k heartbeats per character
  obtain ⟨hm, hab, hcov, hp, hs, hx, hne, hv⟩ :
      Readout.make (dS.encode.set 56 55) = .ok ⟨dS.encode.set 56 55, 134, 11⟩ ∧
      Readout.afterBang ⟨dS.encode.set 56 55, 134, 11⟩ = [49, 65, 69, 57] ++ [13, 10] ∧
      (Readout.mk (dS.encode.set 56 55) 134 11).bytes.take (134 + 1) = dS.body.take 56 ++ 55 :: dS.body.drop 57 ∧
      Octets (dS.body.take 56) ∧ Octets (dS.body.drop 57) ∧ dS.body.getD 56 0 < 256 ∧ dS.body.getD 56 0 ≠ 55 ∧
      0x1AE9 = crc16Arc (dS.body.take 56 ++ dS.body.getD 56 0 :: dS.body.drop 57) := by decide +kernel
  exact ⟨_, hm, one_byte_damage_invalid _ _ hm 0x1AE9
    ⟨49, 65, 69, 57, 1, 10, 14, 9, [13, 10], hab, by decide, by decide, by decide, by decide, by decide,
      Or.inr (Or.inr rfl)⟩
    _ _ _ 55 hcov hp hs hx (by decide) hne hv⟩

end Amshan.C04.Witness
