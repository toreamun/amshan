import Amshan.Props.C20
/-
  C20 — non-vacuity witnesses on real OBIS codes: `1-0:1.8.0*255` (P1 style), `1.1.31.7.0.255` (Kamstrup current
  L1), `1.0.1.7.0.255` (active power, six-part), `0-0:96.1.0`, `1-1:0.2.129*255`, `255-255:255.255.255*255`,
  and malformed strings.
-/
namespace Amshan.C20.Witness
set_option linter.defProp false
open Amshan.Gen Amshan.Obis Amshan.ObisSpec

def s (x : String) : List Nat := x.toList.map Char.toNat

/-- (instance search does not find `DecidableEq` of the six-fold product by itself) -/
instance : DecidableEq Groups := fun g h => inferInstanceAs (Decidable (g = h))

instance (x : Option Nat) : Decidable (C20.absentOrNonZero x) := by
  unfold C20.absentOrNonZero; cases x <;> infer_instance

/-! ### `parse_reduced` : every group ≤ 255 (absent groups allowed) -/

example : reduced (some 1) (some 0) 1 8 (some 0) (some 255) = s "1-0:1.8.0*255" ∧
    parse (s "1-0:1.8.0*255") = .ok (some 1, some 0, 1, 8, some 0, some 255) := by
  have h : reduced (some 1) (some 0) 1 8 (some 0) (some 255) = s "1-0:1.8.0*255" := by decide +kernel
  exact ⟨h, h ▸ parse_reduced (some 1) (some 0) 1 8 (some 0) (some 255) (by decide) (by decide) (by decide) (by decide)
    (by decide) (by decide)⟩

/-- presence patterns: only C.D (`3.4` of the test file), B and E, A and F, all at the maximum -/
example : parse (s "3.4") = .ok (none, none, 3, 4, none, none) ∧
    parse (s "0:96.1.0") = .ok (none, some 0, 96, 1, some 0, none) ∧
    parse (s "1-3.4*6") = .ok (some 1, none, 3, 4, none, some 6) ∧
    parse (s "255-255:255.255.255*255") = .ok (some 255, some 255, 255, 255, some 255, some 255) := by
  refine ⟨?_, ?_, ?_, ?_⟩
  · exact (by decide +kernel : reduced none none 3 4 none none = s "3.4") ▸
      parse_reduced none none 3 4 none none (by decide) (by decide) (by decide) (by decide) (by decide) (by decide)
  · exact (by decide +kernel : reduced none (some 0) 96 1 (some 0) none = s "0:96.1.0") ▸
      parse_reduced none (some 0) 96 1 (some 0) none (by decide) (by decide) (by decide) (by decide) (by decide) (by decide)
  · exact (by decide +kernel : reduced (some 1) none 3 4 none (some 6) = s "1-3.4*6") ▸
      parse_reduced (some 1) none 3 4 none (some 6) (by decide) (by decide) (by decide) (by decide) (by decide) (by decide)
  · exact (by decide +kernel :
        reduced (some 255) (some 255) 255 255 (some 255) (some 255) = s "255-255:255.255.255*255") ▸
      parse_reduced (some 255) (some 255) 255 255 (some 255) (some 255) (by decide) (by decide) (by decide) (by decide)
        (by decide) (by decide)

/-- the hypothesis excludes exactly what the property excludes (groups 0..255): 256 is out -/
example : ¬ optLe (some 256) 255 := by decide

/-! ### `parse_standard` -/

example : standard 1 1 31 7 0 255 = s "1.1.31.7.0.255" ∧
    parse (s "1.1.31.7.0.255") = .ok (some 1, some 1, 31, 7, some 0, some 255) ∧
    parse (s "1.0.1.7.0.255") = .ok (some 1, some 0, 1, 7, some 0, some 255) := by
  have h1 : standard 1 1 31 7 0 255 = s "1.1.31.7.0.255" := by decide +kernel
  have h2 : standard 1 0 1 7 0 255 = s "1.0.1.7.0.255" := by decide +kernel
  exact ⟨h1, h1 ▸ parse_standard 1 1 31 7 0 255 (by decide) (by decide) (by decide) (by decide) (by decide) (by decide),
    h2 ▸ parse_standard 1 0 1 7 0 255 (by decide) (by decide) (by decide) (by decide) (by decide) (by decide)⟩

/-! ### `no_ddd_raises` : no digit-dot-digit anywhere;  `parse_error_is_valueError` : `parse s = .error e` -/

example : hasDigitDotDigit (s "") = false ∧ hasDigitDotDigit (s "1-0:") = false ∧ hasDigitDotDigit (s "kWh") = false ∧
    hasDigitDotDigit (s "1. 8") = false ∧ hasDigitDotDigit (s ".8.") = false ∧
    parse (s "") = .error .valueError ∧ parse (s "1-0:") = .error .valueError ∧ parse (s "kWh") = .error .valueError ∧
    parse (s "1. 8") = .error .valueError ∧ parse (s ".8.") = .error .valueError :=
  ⟨by decide +kernel, by decide +kernel, by decide +kernel, by decide +kernel, by decide +kernel,
   no_ddd_raises _ (by decide +kernel), no_ddd_raises _ (by decide +kernel), no_ddd_raises _ (by decide +kernel),
   no_ddd_raises _ (by decide +kernel), no_ddd_raises _ (by decide +kernel)⟩

/-- a string WITH digit-dot-digit that still fails (C is empty: `:.8.0`): the error class is ValueError -/
example : ∃ e, parse (s "1-0:.8.0") = .error e ∧ e = .valueError := by
  cases h : parse (s "1-0:.8.0") with
  | error e => exact ⟨e, rfl, parse_error_is_valueError _ e h⟩
  | ok g =>
    have : (match parse (s "1-0:.8.0") with | .ok _ => true | .error _ => false) = false := by decide +kernel
    rw [h] at this; cases this

/-! ### `hash_congr` : `eqObis g h = true` — the same code written in the two syntaxes -/

example : let g := (parse (s "1-0:1.8.0*255")).toOption.getD default
    let h := (parse (s "1.0.1.8.0.255")).toOption.getD default
    eqObis g h = true ∧ hashKey g = hashKey h ∧ eqStr g (s "1.0.1.8.0.255") = true := by
  intro g h
  have e : eqObis g h = true := by decide +kernel
  exact ⟨e, hash_congr g h e, by decide +kernel⟩

/-! ### `cde_exact` : C, D, E ≤ 255 -/

example : cdeStr (some 1, some 1, 31, 7, some 0, some 255) = s "31.7.0" ∧
    cdeStr (none, none, 255, 255, some 255, none) = s "255.255.255" := by
  constructor
  · rw [cde_exact (some 1) (some 1) 31 7 0 (some 255) (by decide) (by decide) (by decide)]; decide +kernel
  · rw [cde_exact none none 255 255 255 none (by decide) (by decide) (by decide)]; decide +kernel

/-! ### `toReducedStr_eq`, `roundtrip`, `roundtrip_str` : optional groups ≤ 255 and absent or NON-ZERO -/

/-- `1-1:0.2.129*255` (list version identifier): A, B, E, F present and non-zero, C = 0 is allowed -/
example : optLe (some 1) 255 ∧ absentOrNonZero (some 1) ∧ absentOrNonZero (some 129) ∧
    toReducedStr (some 1, some 1, 0, 2, some 129, some 255) = s "1-1:0.2.129*255" ∧
    parse (toReducedStr (some 1, some 1, 0, 2, some 129, some 255)) = .ok (some 1, some 1, 0, 2, some 129, some 255) ∧
    parse (toStr (some 1, some 1, 0, 2, some 129, some 255)) = .ok (some 1, some 1, 0, 2, some 129, some 255) := by
  refine ⟨by decide, by decide, by decide, ?_, ?_, ?_⟩
  · rw [toReducedStr_eq (some 1) (some 1) 0 2 (some 129) (some 255) ⟨by decide, by decide⟩ ⟨by decide, by decide⟩
      (by decide) (by decide) ⟨by decide, by decide⟩ ⟨by decide, by decide⟩]
    decide +kernel
  · exact roundtrip (some 1) (some 1) 0 2 (some 129) (some 255) ⟨by decide, by decide⟩ ⟨by decide, by decide⟩
      (by decide) (by decide) ⟨by decide, by decide⟩ ⟨by decide, by decide⟩
  · exact roundtrip_str (some 1) (some 1) 0 2 (some 129) (some 255) ⟨by decide, by decide⟩ ⟨by decide, by decide⟩
      (by decide) (by decide) ⟨by decide, by decide⟩ ⟨by decide, by decide⟩

/-- all groups non-zero: `str()` uses the six-part form (the input of defect D1 had A and B present) -/
example : toStr (some 1, some 1, 1, 8, some 1, some 255) = s "1.1.1.8.1.255" ∧
    parse (toStr (some 1, some 1, 1, 8, some 1, some 255)) = .ok (some 1, some 1, 1, 8, some 1, some 255) ∧
    toReducedStr (some 1, some 1, 1, 8, none, none) = s "1-1:1.8" :=
  ⟨by decide +kernel, roundtrip_str (some 1) (some 1) 1 8 (some 1) (some 255) ⟨by decide, by decide⟩ ⟨by decide, by decide⟩
      (by decide) (by decide) ⟨by decide, by decide⟩ ⟨by decide, by decide⟩, by decide +kernel⟩

/-- what the side condition excludes — and it is needed: the REAL code 1-0:1.8.0*255 has B = 0 and E = 0; formatting
    drops them and parsing the result gives other groups -/
example : ¬ absentOrNonZero (some 0) ∧
    toReducedStr (some 1, some 0, 1, 8, some 0, some 255) = s "1-1.8*255" ∧
    parse (toReducedStr (some 1, some 0, 1, 8, some 0, some 255)) = .ok (some 1, none, 1, 8, none, some 255) := by
  decide +kernel

/-! ### `showNat_eq_dec'` : `n ≤ 255` -/
example : showNat 255 = dec 255 ∧ showNat 0 = dec 0 := ⟨showNat_eq_dec' 255 (by decide), showNat_eq_dec' 0 (by decide)⟩

end Amshan.C20.Witness
