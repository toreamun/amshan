import Amshan.Props.C12OwnBody
import Amshan.Props.C11
/-
  C12 (concrete part, continued) — frames of the remaining kinds on a fresh AutoDecoder (a Kaifa
  OBIS-tagged list goes to Kaifa_frame; a Kamstrup frame to Kamstrup_frame whatever the padding after
  the version string, given a length octet ≥ 2, which is needed).  HISTORIES: if every message of a
  history would be given to decoder `k` by a fresh AutoDecoder, then ONE AutoDecoder given the whole
  history gives every message to decoder `k`, returns that decoder's results and remembers `k`, also
  with payloads nobody accepts in between - for any table, and for each of the seven decoders.
  `decode_message` of a P1 READOUT: a printable data block is rejected by all six binary decoders, so
  the P1 entry is chosen whatever the AutoDecoder has seen before.
-/
namespace Amshan.C12
open Amshan.Gen Amshan.Cosem Amshan.Dec Amshan.ListSpec Amshan.DecOwnBody

/-- a Kaifa OBIS-tagged (Swedish) frame that Kaifa_frame accepts (`hdec`) goes to Kaifa_frame on a
    fresh AutoDecoder -/
theorem own_kaifa_obis_frame_fresh (hd : Header) (hh : hd.WF) (es : List (List Nat × KVal))
    (d : Dict) (hdec : Kaifa.decodeFrame (encHeader hd ++ encKaifaObis es) = .dict d) :
    stepPayload none (encHeader hd ++ encKaifaObis es) = .ok (some 1, some d) :=
  own_kaifa_frame_payload_fresh hd hh _ (by rw [DecOwn.encKaifaObis_head]; decide) d hdec

/-- with the dictionary of C08 (any APDU date-time form, the null one included) -/
theorem own_kaifa_obis_frame_fresh_wf (hF : C08.ScaledCorrect) (hd : Header) (hh : hd.WF)
    (es : List (List Nat × KVal)) (h : ∀ p ∈ es, Obis6 p.1 ∧ p.2.WF) (hs : C08.ScaledAreRegisters es)
    (hl : es.length ≤ 127) :
    stepPayload none (encHeader hd ++ encKaifaObis es) = .ok (some 1, some (kaifaObisExpected es)) :=
  own_kaifa_obis_frame_fresh hd hh es _ (C08.kaifa_obis_frame hF hd hh es h hs hl)

/-- the positional frame theorem with the dictionary of C08 -/
theorem own_kaifa_frame_fresh_wf (hF : C08.ScaledCorrect) (hd : Header) (hh : hd.WF) (hc : hd.clock ≠ .null)
    (vs : List KVal) (h : KaifaValuesWF vs) :
    stepPayload none (encHeader hd ++ encKaifaValues vs) =
      .ok (some 1, some (kaifaValuesExpected (some (match hd.clock with
        | .tagged d => expectedDT d | .untagged d => expectedDT d | .null => default)) vs)) := by
  refine own_kaifa_frame_fresh hd hh hc vs _ ?_
  have := C08.kaifa_values_frame hF hd hh hc vs h []
  rwa [List.append_nil] at this

/-- non-vacuity: the start of the real Swedish Kaifa list (1.0.0.2.129.255 list version "KFM_001",
    1.0.1.7.0.255 active power) in a frame with a null APDU date-time -/
example : stepPayload none (encHeader ⟨[0xE6, 0xE7, 0x00], 0x0F, [0x40, 0, 0, 0], .null⟩ ++
      encKaifaObis [([1, 0, 0, 2, 129, 255], .text [75, 70, 77, 95, 48, 48, 49]), ([1, 0, 1, 7, 0, 255], .u32 1234)]) =
    .ok (some 1, some [("meter_manufacturer", .str [75, 97, 105, 102, 97]),
      ("list_ver_id", .str [75, 70, 77, 95, 48, 48, 49]), ("active_power_import", .int 1234)]) := by
  decide +kernel

/-- Kaifa_frame raises on every genuine Kamstrup frame with a length octet ≥ 2 whose first OBIS code
    has an octet ≥ 0x80, whatever the null-data padding after the version string -/
theorem kaifa_frame_rejects_kamstrup (hd : Header) (hh : hd.WF) (l : KamList) (h : l.WF)
    (hlen : 2 ≤ l.lenOctet) (hfirst : ∃ e rest, l.elems = e :: rest ∧ ∃ b ∈ e.obis, 128 ≤ b) :
    ∃ e, ofOut (Kaifa.decodeFrame (encHeader hd ++ encKamList l)) = .error e :=
  DecOwn.kaifa_frame_rej_kam hd hh l h hlen hfirst

/-- with the dictionary of C09 -/
theorem own_kamstrup_frame_fresh_wf (hF : C09.ScaledCorrect) (hd : Header) (hh : hd.WF) (hc : hd.clock ≠ .null)
    (l : KamList) (h : l.WF) (hlen : 2 ≤ l.lenOctet)
    (hfirst : ∃ e rest, l.elems = e :: rest ∧ ∃ b ∈ e.obis, 128 ≤ b) :
    stepPayload none (encHeader hd ++ encKamList l) =
      .ok (some 2, some ((kamExpected l).set "meter_datetime" (.dt (match hd.clock with
        | .tagged d => expectedDT d | .untagged d => expectedDT d | .null => default)))) :=
  own_kamstrup_frame_any_pad hd hh l h hlen hfirst _ (C09.kamstrup_frame hF hd hh hc l h)

/-- the case `versionPad = 0` excludes: one null-data octet after the version string and length
    octet 2.  Kaifa_frame does not raise a ConstructError here but an IndexError (a two-element
    positional list is no documented Kaifa list); the frame is still decoded by Kamstrup_frame. -/
example :
    let hd : Header := ⟨[0xE6, 0xE7, 0x00], 0x0F, [0, 0, 0, 0], .untagged ⟨2021, 2, 22, 1, 16, 19, 0, some 0, none, 0⟩⟩
    let l : KamList := ⟨2, [75, 97, 109, 115, 116, 114, 117, 112, 95, 86, 48, 48, 48, 49], 1,
      [⟨[1, 1, 0, 0, 5, 255], .text [53, 55], 0⟩]⟩
    l.WF ∧ l.versionPad ≠ 0 ∧ Kaifa.decodeFrame (encHeader hd ++ encKamList l) = .exc .indexError ∧
    picked (stepPayload none (encHeader hd ++ encKamList l)) = some 2 := by
  decide +kernel

/-- `2 ≤ lenOctet` is needed for frames too: with length octet 0 Kaifa_frame takes the list for an
    empty OBIS-tagged structure, with length octet 1 for Kaifa list 1 whose "active power" is the
    version string; either way Kaifa_frame (decoder 1) answers, not Kamstrup_frame -/
example :
    let hd : Header := ⟨[0xE6, 0xE7, 0x00], 0x0F, [0, 0, 0, 0], .untagged ⟨2021, 2, 22, 1, 16, 19, 0, some 0, none, 0⟩⟩
    let l (n : Nat) : KamList := ⟨n, [75, 97, 109, 115, 116, 114, 117, 112, 95, 86, 48, 48, 48, 49], 0,
      [⟨[1, 1, 0, 0, 5, 255], .text [53, 55], 0⟩]⟩
    (l 0).WF ∧ (l 1).WF ∧ isDict (Kamstrup.decodeFrame (encHeader hd ++ encKamList (l 0))) = true ∧
    picked (stepPayload none (encHeader hd ++ encKamList (l 0))) = some 1 ∧
    picked (stepPayload none (encHeader hd ++ encKamList (l 1))) = some 1 := by
  decide +kernel

/-- **C12 (histories, generic).**  For ANY decoder table: if each message `enc q` of a non-empty
    history `ms`, given to a FRESH AutoDecoder, is decoded by decoder `k` with result `exp q`, then
    the whole history given to ONE AutoDecoder yields exactly those results, message by message, and
    decoder `k` is the remembered one at the end. -/
theorem history_own_generic {α β μ : Type} (decs : List (Auto.Decoder α β)) (caught : PyExc → Bool) (k : Nat)
    (enc : μ → α) (exp : μ → β) (ms : List μ) (hne : ms ≠ [])
    (hfresh : ∀ q ∈ ms, Auto.step decs caught none (enc q) = .ok (some k, some (exp q))) :
    Auto.runHistory decs caught none (ms.map enc) = .ok (some k, ms.map fun q => some (exp q)) :=
  Auto.runHistory_of_fresh decs caught k enc exp ms hne hfresh

/-- … and `k` is the remembered decoder after EVERY message of the history, not only at the end -/
theorem history_own_generic_prefix {α β μ : Type} (decs : List (Auto.Decoder α β)) (caught : PyExc → Bool)
    (k : Nat) (enc : μ → α) (exp : μ → β) (ms : List μ)
    (hfresh : ∀ q ∈ ms, Auto.step decs caught none (enc q) = .ok (some k, some (exp q)))
    (n : Nat) (hn : 0 < n) (hne : ms ≠ []) :
    Auto.runHistory decs caught none ((ms.take n).map enc) =
      .ok (some k, (ms.take n).map fun q => some (exp q)) :=
  Auto.runHistory_of_fresh decs caught k enc exp (ms.take n)
    (fun h => (List.take_eq_nil_iff.1 h).elim (Nat.ne_of_gt hn) hne) fun q hq => hfresh q (List.mem_of_mem_take hq)

/-- the one-step form with the remembered index PROVED rather than assumed: decoder `k` accepted the
    earlier messages `ms` (non-empty, first one on a fresh AutoDecoder), so the next message `p` that
    decoder `k` accepts is decoded by decoder `k` -/
theorem history_then_own {α β μ : Type} (decs : List (Auto.Decoder α β)) (caught : PyExc → Bool) (k : Nat)
    (enc : μ → α) (exp : μ → β) (ms : List μ) (hne : ms ≠ [])
    (hfresh : ∀ q ∈ ms, Auto.step decs caught none (enc q) = .ok (some k, some (exp q)))
    (d : Auto.Decoder α β) (hk : decs[k]? = some d) (p : α) (v : β) (hv : d p = .ok v) :
    Auto.runHistory decs caught none (ms.map enc ++ [p]) =
      .ok (some k, (ms.map fun q => some (exp q)) ++ [some v]) := by
  rw [Auto.runHistory_snoc, Auto.runHistory_of_fresh decs caught k enc exp ms hne hfresh]
  simp only [prefers_previous decs caught k d p v hk hv]

/-- **with junk.**  Messages nobody accepts (`exp q = none`) may stand anywhere in the history, also
    before the first genuine message: the results are those of fresh AutoDecoders, and the
    remembered decoder is `k` as soon as one genuine message has been seen (`hc`: the `except` clause
    catches everything, `all_caught`). -/
theorem history_own_generic_junk {α β μ : Type} (decs : List (Auto.Decoder α β)) (caught : PyExc → Bool)
    (hc : ∀ e, caught e = true) (k : Nat) (enc : μ → α) (exp : μ → Option β) (ms : List μ)
    (h : ∀ q ∈ ms, (∃ v, exp q = some v ∧ Auto.step decs caught none (enc q) = .ok (some k, some v)) ∨
        (exp q = none ∧ ∀ d' ∈ decs, accepts d' (enc q) = false)) :
    Auto.runHistory decs caught none (ms.map enc) =
      .ok (if ms.any (fun q => (exp q).isSome) then some k else none, ms.map exp) :=
  Auto.runHistory_of_fresh_junk decs caught k enc exp ms none (.inl rfl) fun q hq =>
    (h q hq).imp id fun ⟨hn, hr⟩ => ⟨hn, fun prev => Auto.step_junk decs caught hc prev _ hr⟩

/-- `decode_message_payload` over a history, fresh AutoDecoder -/
def historyPayload (ps : List (List Nat)) : Except PyExc (Option Nat × List (Option Dict)) :=
  Auto.runHistory decoders caught none ps

/-- the concrete table: payloads that each select decoder `k` when fresh -/
theorem history_own (k : Nat) {μ : Type} (enc : μ → List Nat) (exp : μ → Dict) (ms : List μ) (hne : ms ≠ [])
    (hfresh : ∀ q ∈ ms, stepPayload none (enc q) = .ok (some k, some (exp q))) :
    historyPayload (ms.map enc) = .ok (some k, ms.map fun q => some (exp q)) :=
  history_own_generic decoders caught k enc exp ms hne hfresh

theorem history_own_junk (k : Nat) {μ : Type} (enc : μ → List Nat) (exp : μ → Option Dict) (ms : List μ)
    (h : ∀ q ∈ ms, (∃ v, exp q = some v ∧ stepPayload none (enc q) = .ok (some k, some v)) ∨
        (exp q = none ∧ ∀ d' ∈ decoders, accepts d' (enc q) = false)) :
    historyPayload (ms.map enc) = .ok (if ms.any (fun q => (exp q).isSome) then some k else none, ms.map exp) :=
  history_own_generic_junk decoders caught DecTotal.caught_all k enc exp ms h

/-- **0 Aidon_frame.** any history of genuine Aidon frames (any headers, any lists) -/
theorem history_aidon_frames (ms : List (Header × List AidonElem)) (hne : ms ≠ [])
    (h : ∀ q ∈ ms, q.1.WF ∧ (∀ e ∈ q.2, e.WF) ∧ q.2.length ≤ 255) :
    historyPayload (ms.map fun q => encHeader q.1 ++ encAidonBody q.2) =
      .ok (some 0, ms.map fun q => some (aidonExpected q.2)) :=
  history_own 0 _ _ ms hne fun q hq => own_aidon_frame_fresh q.1 (h q hq).1 q.2 (h q hq).2.1 (h q hq).2.2

/-- **1 Kaifa_frame.** any history of genuine Kaifa frames, positional (`.inl`) and OBIS-tagged
    (`.inr`) lists mixed -/
def encKaifaFrame : Header × (List KVal ⊕ List (List Nat × KVal)) → List Nat
  | (hd, .inl vs) => encHeader hd ++ encKaifaValues vs
  | (hd, .inr es) => encHeader hd ++ encKaifaObis es

def kaifaFrameExpected : Header × (List KVal ⊕ List (List Nat × KVal)) → Dict
  | (hd, .inl vs) => kaifaValuesExpected (some (match hd.clock with
        | .tagged d => expectedDT d | .untagged d => expectedDT d | .null => default)) vs
  | (_, .inr es) => kaifaObisExpected es

def KaifaFrameWF : Header × (List KVal ⊕ List (List Nat × KVal)) → Prop
  | (hd, .inl vs) => hd.WF ∧ hd.clock ≠ .null ∧ KaifaValuesWF vs
  | (hd, .inr es) => hd.WF ∧ (∀ p ∈ es, Obis6 p.1 ∧ p.2.WF) ∧ C08.ScaledAreRegisters es ∧ es.length ≤ 127

theorem history_kaifa_frames (hF : C08.ScaledCorrect) (ms : List (Header × (List KVal ⊕ List (List Nat × KVal))))
    (hne : ms ≠ []) (h : ∀ q ∈ ms, KaifaFrameWF q) :
    historyPayload (ms.map encKaifaFrame) = .ok (some 1, ms.map fun q => some (kaifaFrameExpected q)) := by
  refine history_own 1 _ _ ms hne fun q hq => ?_
  have hw := h q hq
  match q, hw with
  | (hd, .inl vs), hw => exact own_kaifa_frame_fresh_wf hF hd hw.1 hw.2.1 vs hw.2.2
  | (hd, .inr es), hw => exact own_kaifa_obis_frame_fresh_wf hF hd hw.1 es hw.2.1 hw.2.2.1 hw.2.2.2

/-- **2 Kamstrup_frame.** any history of genuine Kamstrup frames (any padding; length octet ≥ 2, first
    OBIS code with an octet ≥ 0x80, APDU date-time not the null one) -/
theorem history_kamstrup_frames (hF : C09.ScaledCorrect) (ms : List (Header × KamList)) (hne : ms ≠ [])
    (h : ∀ q ∈ ms, q.1.WF ∧ q.1.clock ≠ .null ∧ q.2.WF ∧ 2 ≤ q.2.lenOctet ∧
      ∃ e rest, q.2.elems = e :: rest ∧ ∃ b ∈ e.obis, 128 ≤ b) :
    historyPayload (ms.map fun q => encHeader q.1 ++ encKamList q.2) =
      .ok (some 2, ms.map fun q => some ((kamExpected q.2).set "meter_datetime" (.dt (match q.1.clock with
        | .tagged d => expectedDT d | .untagged d => expectedDT d | .null => default)))) :=
  history_own 2 _ _ ms hne fun q hq =>
    own_kamstrup_frame_fresh_wf hF q.1 (h q hq).1 (h q hq).2.1 q.2 (h q hq).2.2.1 (h q hq).2.2.2.1 (h q hq).2.2.2.2

/-- **3 P1.** any history of P1 data blocks of printable characters, CR and LF that the content
    decoder accepts -/
theorem history_p1_blocks (exp : List Nat → Dict) (bs : List (List Nat)) (hne : bs ≠ [])
    (h : ∀ b ∈ bs, (∀ c ∈ b, (32 ≤ c ∧ c ≤ 126) ∨ c = 13 ∨ c = 10) ∧ P1Parse.decodeContent b = .ok (exp b)) :
    historyPayload bs = .ok (some 3, bs.map fun b => some (exp b)) := by
  have := history_own 3 id exp bs hne fun b hb => own_p1_fresh b (h b hb).1 _ (h b hb).2
  rwa [List.map_id] at this

/-- **4 Aidon_notification_body.** any history of genuine Aidon bodies with `noApduStart` -/
theorem history_aidon_bodies (ms : List (List AidonElem)) (hne : ms ≠ [])
    (h : ∀ es ∈ ms, (∀ e ∈ es, e.WF) ∧ es.length ≤ 255 ∧ noApduStart (encAidonBody es) = true) :
    historyPayload (ms.map encAidonBody) = .ok (some 4, ms.map fun es => some (aidonExpected es)) :=
  history_own 4 _ _ ms hne fun es hq => own_aidon_body_fresh es (h es hq).1 (h es hq).2.1 (h es hq).2.2

/-- **5 Kaifa_notification_body.** positional (`.inl`, unconditional for the documented lists) and
    OBIS-tagged (`.inr`) lists mixed -/
def encKaifaBody : List KVal ⊕ List (List Nat × KVal) → List Nat
  | .inl vs => encKaifaValues vs
  | .inr es => encKaifaObis es

def kaifaBodyExpected : List KVal ⊕ List (List Nat × KVal) → Dict
  | .inl vs => kaifaValuesExpected none vs
  | .inr es => kaifaObisExpected es

def KaifaBodyWF : List KVal ⊕ List (List Nat × KVal) → Prop
  | .inl vs => KaifaValuesWF vs
  | .inr es => (∀ p ∈ es, Obis6 p.1 ∧ p.2.WF) ∧ C08.ScaledAreRegisters es ∧ es.length ≤ 127 ∧
      noApduStart (encKaifaObis es) = true

theorem history_kaifa_bodies (hF : C08.ScaledCorrect) (ms : List (List KVal ⊕ List (List Nat × KVal)))
    (hne : ms ≠ []) (h : ∀ q ∈ ms, KaifaBodyWF q) :
    historyPayload (ms.map encKaifaBody) = .ok (some 5, ms.map fun q => some (kaifaBodyExpected q)) := by
  refine history_own 5 _ _ ms hne fun q hq => ?_
  have hw := h q hq
  match q, hw with
  | .inl vs, hw => exact own_kaifa_body_fresh_wf hF vs hw
  | .inr es, hw => exact own_kaifa_obis_body_fresh_wf hF es hw.1 hw.2.1 hw.2.2.1 hw.2.2.2

/-- **6 Kamstrup_notification_body.** any history of genuine Kamstrup lists under the hypotheses of
    `own_kamstrup_body_fresh_wf` -/
theorem history_kamstrup_bodies (hF : C09.ScaledCorrect) (ms : List KamList) (hne : ms ≠ [])
    (h : ∀ l ∈ ms, l.WF ∧ 2 ≤ l.lenOctet ∧ (∃ e rest, l.elems = e :: rest ∧ ∃ b ∈ e.obis, 128 ≤ b) ∧
      noApduStart (encKamList l) = true) :
    historyPayload (ms.map encKamList) = .ok (some 6, ms.map fun l => some (kamExpected l)) :=
  history_own 6 _ _ ms hne fun l hq =>
    own_kamstrup_body_fresh_wf hF l (h l hq).1 (h l hq).2.1 (h l hq).2.2.1 (h l hq).2.2.2

/-- non-vacuity (and the junk form at work): junk, a real-shaped Kaifa list-1 frame, junk, a Kaifa
    OBIS-tagged frame.  Results None, Kaifa, None, Kaifa; Kaifa_frame remembered. -/
example :
    let hd : Header := ⟨[0xE6, 0xE7, 0x00], 0x0F, [0x40, 0, 0, 0], .tagged ⟨2017, 9, 1, 5, 2, 10, 0, none, none, 0xFF⟩⟩
    historyPayload [[1, 2, 3, 4, 5], encHeader hd ++ encKaifaValues [.u32 0x0D5E], [1, 2, 3, 4, 5],
      encHeader hd ++ encKaifaObis [([1, 0, 1, 7, 0, 255], .u32 7)]] =
    .ok (some 1, [none,
      some [("meter_manufacturer", .str [75, 97, 105, 102, 97]),
        ("meter_datetime", .dt ⟨2017, 9, 1, 2, 10, 0, 0, none⟩), ("active_power_import", .int 0x0D5E)],
      none,
      some [("meter_manufacturer", .str [75, 97, 105, 102, 97]), ("active_power_import", .int 7)]]) := by
  intro hd
  have hj : ∀ d' ∈ decoders, accepts d' [1, 2, 3, 4, 5] = false := by decide +kernel
  have := history_own_junk 1 (μ := List Nat × Option Dict) (fun q => q.1) (fun q => q.2)
    [([1, 2, 3, 4, 5], none),
     (encHeader hd ++ encKaifaValues [.u32 0x0D5E], some [("meter_manufacturer", .str [75, 97, 105, 102, 97]),
        ("meter_datetime", .dt ⟨2017, 9, 1, 2, 10, 0, 0, none⟩), ("active_power_import", .int 0x0D5E)]),
     ([1, 2, 3, 4, 5], none),
     (encHeader hd ++ encKaifaObis [([1, 0, 1, 7, 0, 255], .u32 7)],
        some [("meter_manufacturer", .str [75, 97, 105, 102, 97]), ("active_power_import", .int 7)])] ?_
  · exact this
  · intro q hq
    simp only [List.mem_cons, List.not_mem_nil, or_false] at hq
    rcases hq with rfl | rfl | rfl | rfl
    · exact Or.inr ⟨rfl, hj⟩
    · exact Or.inl ⟨_, rfl, own_kaifa_frame_fresh hd ⟨rfl, rfl, by decide +kernel⟩ (by decide +kernel) _ _ (by decide +kernel)⟩
    · exact Or.inr ⟨rfl, hj⟩
    · exact Or.inl ⟨_, rfl, own_kaifa_obis_frame_fresh hd ⟨rfl, rfl, by decide +kernel⟩ _ _ (by decide +kernel)⟩

/-- printable characters, CR and LF -/
def P1Text (s : List Nat) : Prop := ∀ c ∈ s, (32 ≤ c ∧ c ≤ 126) ∨ c = 13 ∨ c = 10

instance (s : List Nat) : Decidable (P1Text s) := by unfold P1Text; infer_instance

/-- **C12 (P1, any history).** `decode_message` of a P1 readout whose data block consists of printable
    characters, CR and LF: nothing but entry 3 accepts such a payload (`step_text`), and entry 3
    decodes the READOUT with its identification line (`decode_p1_readout`), whatever the AutoDecoder
    has decoded before.  For `decode_message` … -/
theorem own_p1_readout_any_history (prev : Option Nat) (r : P1.Readout) (hne : r.payload ≠ [])
    (hb : P1Text r.payload) (d : Dict) (hdec : P1Parse.decodeReadout r = .ok d) :
    stepMessage prev (.p1 r) = .ok (some 3, some d) := by
  rw [DecOwn.stepMessage_p1 prev r hne, step_text prev hb, hdec]

/-- **C12 (P1 readout, fresh).** in particular on a fresh AutoDecoder -/
theorem own_p1_readout_fresh (r : P1.Readout) (hne : r.payload ≠ []) (hb : P1Text r.payload)
    (d : Dict) (hdec : P1Parse.decodeReadout r = .ok d) :
    stepMessage none (.p1 r) = .ok (some 3, some d) :=
  own_p1_readout_any_history none r hne hb d hdec

/-- … and for `decode_message_payload` of a data block -/
theorem own_p1_any_history (prev : Option Nat) (block : List Nat) (hb : P1Text block)
    (d : Dict) (hdec : P1Parse.decodeContent block = .ok d) :
    stepPayload prev block = .ok (some 3, some d) :=
  stepPayload_text prev hb hdec

/-- a readout the readout decoder refuses (bad identification line, unparsable data line, …) is
    refused by `decode_message` altogether: None, memory unchanged -/
theorem p1_readout_none (prev : Option Nat) (r : P1.Readout) (hb : P1Text r.payload)
    (e : PyExc) (hdec : P1Parse.decodeReadout r = .error e) :
    stepMessage prev (.p1 r) = .ok (prev, none) := by
  by_cases hne : r.payload = []
  · exact message_empty_payload prev _ (Or.inr (by simp [Message.payload, hne]))
  · rw [DecOwn.stepMessage_p1 prev r hne, step_text prev hb, hdec]

/-- **C12 / C11.** `decode_message` of a readout against `decode_message_payload` of its payload: when
    the content decoder accepts the payload (dictionary `d`) and the identification line parses
    (`m`), both choose the P1 entry; the payload form returns `d` and the message form returns `d`
    plus the two identification fields (C11 `readout_eq_content_plus_ident`) -/
theorem message_p1_eq_content_plus_ident (prev : Option Nat) (r : P1.Readout) (hb : P1Text r.payload)
    (d : Dict) (m : P1.IdentMatch) (hd : P1Parse.decodeContent r.payload = .ok d) (hm : r.identLine = .ok m) :
    stepPayload prev r.payload = .ok (some 3, some d) ∧
    stepMessage prev (.p1 r) = .ok (some 3, some (match m.ident with
      | some i => (d.set field_METER_MANUFACTURER_ID (.str m.manid)).set field_METER_TYPE_ID (.str i)
      | none => d.set field_METER_MANUFACTURER_ID (.str m.manid))) := by
  have hne : r.payload ≠ [] := by
    intro he
    have : P1Parse.decodeContent [] = .error .valueError := by decide +kernel
    rw [he, this] at hd
    cases hd
  exact ⟨own_p1_any_history prev r.payload hb d hd,
    own_p1_readout_any_history prev r hne hb _ (C11.readout_eq_content_plus_ident r d m hd hm)⟩

/-- `decode_message` over a history of messages, fresh AutoDecoder -/
def runMessages : Option Nat → List Message → Except PyExc (Option Nat × List (Option Dict))
  | prev, [] => .ok (prev, [])
  | prev, m :: ms =>
    match stepMessage prev m with
    | .error e => .error e
    | .ok (prev1, r) =>
      match runMessages prev1 ms with
      | .error e => .error e
      | .ok (prev2, rs) => .ok (prev2, r :: rs)

/-- **3 P1, `decode_message`.** any history of readouts with printable data blocks that the readout
    decoder accepts, after ANY earlier history (`prev`) -/
theorem history_p1_readouts (prev : Option Nat) (exp : P1.Readout → Dict) (rs : List P1.Readout) (hne : rs ≠ [])
    (h : ∀ r ∈ rs, r.payload ≠ [] ∧ P1Text r.payload ∧ P1Parse.decodeReadout r = .ok (exp r)) :
    runMessages prev (rs.map Message.p1) = .ok (some 3, rs.map fun r => some (exp r)) := by
  induction rs generalizing prev with
  | nil => exact absurd rfl hne
  | cons r rs ih =>
    have hr := h r List.mem_cons_self
    have hs := own_p1_readout_any_history prev r hr.1 hr.2.1 _ hr.2.2
    rw [List.map_cons, runMessages, hs]
    cases rs with
    | nil => rfl
    | cons r' rs' =>
      simp only
      rw [ih (some 3) (by simp) (fun q hq => h q (List.mem_cons_of_mem _ hq))]
      rfl

/-- non-vacuity: a three-line readout of an E360 ("/LGF5E360", clock, one energy register) through
    `decode_message` of an AutoDecoder that remembers Kamstrup_notification_body -/
example :
    let raw : List Nat := Py.ofString "/LGF5E360\r\n\r\n0-0:1.0.0(210222161900W)\r\n1-0:32.7.0(230.1*V)\r\n!\r\n"
    ∃ r, P1.Readout.make raw = .ok r ∧ r.payload ≠ [] ∧ P1Text r.payload ∧
      (∃ d, P1Parse.decodeReadout r = .ok d ∧ stepMessage (some 6) (.p1 r) = .ok (some 3, some d) ∧
        d.lookup "meter_manufacturer_id" = some (.str [76, 71, 70]) ∧
        d.lookup "meter_type_id" = some (.str [69, 51, 54, 48])) := by
  intro raw
  -- one evaluation of the readout decoder for all that is said about its result
  have h : P1.Readout.make raw = .ok ⟨raw, 60, 11⟩ ∧ (⟨raw, 60, 11⟩ : P1.Readout).payload ≠ [] ∧
      P1Text (⟨raw, 60, 11⟩ : P1.Readout).payload ∧
      (match P1Parse.decodeReadout ⟨raw, 60, 11⟩ with
        | .ok d => decide (d.lookup "meter_manufacturer_id" = some (.str [76, 71, 70])) &&
            decide (d.lookup "meter_type_id" = some (.str [69, 51, 54, 48]))
        | .error _ => false) = true := by decide +kernel
  obtain ⟨hmake, hne, htext, hres⟩ := h
  refine ⟨⟨raw, 60, 11⟩, hmake, hne, htext, ?_⟩
  cases hd : P1Parse.decodeReadout ⟨raw, 60, 11⟩ with
  | error e => rw [hd] at hres; cases hres
  | ok d =>
    rw [hd] at hres
    simp only [Bool.and_eq_true, decide_eq_true_eq] at hres
    exact ⟨d, rfl, own_p1_readout_any_history _ _ hne htext d hd, hres.1, hres.2⟩

end Amshan.C12
