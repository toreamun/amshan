import Amshan.Lemmas.GenCodeProto
/-
  C13 (tie by translation) — `SmartMeterBaseProtocol.data_received` and the two concrete `message_received`
  (`SmartMeterMessageProtocol`, `SmartMeterMessagePayloadProtocol`), mechanically translated from the current source
  (Amshan/GeneratedCodeProto.lean), equal the model that the theorems of this property speak
  about (`Proto.dataReceived` with its candidate loop `Proto.trySelect`, and `Proto.received`).

  Generic like the model: a reader is an opaque object with state — `reader.read(data)` changes the reader and
  answers a list of messages: `Rd.feed` — and a message an opaque object with `is_valid` / `payload`.  `self` is the
  record `PyState` of the two attributes the method assigns (`_selected_reader : Option Rd`, `_reader_candidates :
  List Rd`); the translated method answers the record afterwards and the messages it gave to
  `self.message_received`, in order (`message_received` is abstract in the base class: the call is recorded, and
  the two implementations are translated on their own, with `self.queue.put_nowait(x)` recorded the same way).
  `for reader in self._reader_candidates:` changes the candidates in place; the translation is `GenRt.forLoopMut`,
  which answers the list with the visited candidates as they are now; `self._reader_candidates.clear()` inside that
  loop is the flag of the loop state that ends it (Python's list iterator finds the list empty) and makes the list
  `[]` afterwards.  `if self._selected_reader:` is `is not None` (readers have neither `__bool__` nor `__len__`:
  checked by the translator).  The candidates are taken to be pairwise distinct objects.

  The model's state additionally carries the INDEX of the selected candidate in the original list (the identity of
  the reader object, which `selected_is_first_valid` speaks about); the Python object has no such field.
  `State.erase` forgets it: the statement is that the translated method maps the erased state to the erased state of
  the model's step (every `PyState` is the erasure of a model state: `erase_surjective`).  That the index is the
  position of the selected reader in the candidate list is a fact about the model (`Proto.trySelect` counts), not
  about the source.
-/
namespace Amshan.C13
open Amshan.Proto Amshan.GenCode

/-- `data_received(data)` in the state `s` (seen as the Python object sees it): the object's state afterwards is
    that of the model's step, and the messages forwarded to `message_received`, in order, are exactly those whose
    queue items the model's step answers — for both protocols `k` -/
theorem gen_dataReceived (k : Kind) (s : State) (data : List Nat) :
    (protoDataReceived s.erase data).1 = (dataReceived k s data).1.erase ∧
      (protoDataReceived s.erase data).2.flatMap (received k) = (dataReceived k s data).2 := by
  rw [GenLemmas.protoDataReceived_eq k s data, GenLemmas.dataReceived_items]
  exact ⟨rfl, rfl⟩

/-- every state of the Python object is the view of a model state -/
theorem erase_surjective (ps : PyState) : ∃ s : State, s.erase = ps :=
  ⟨{ selected := ps.selected.map (fun r => (0, r)), candidates := ps.candidates }, by
    rcases ps with ⟨sel, cands⟩
    cases sel <;> rfl⟩

/-- `SmartMeterMessageProtocol.message_received(message)`: what is put on the queue -/
theorem gen_messageReceived_message (m : Msg) : (protoMessageReceived m).map Item.msg = received .message m := by
  exact GenLemmas.protoMessageReceived_eq m

/-- `SmartMeterMessagePayloadProtocol.message_received(message)`: what is put on the queue -/
theorem gen_messageReceived_payload (m : Msg) : (protoPayloadReceived m).map Item.payload = received .payload m := by
  exact GenLemmas.protoPayloadReceived_eq m

/-- the two translations composed: the queue items of one `data_received` call of the message protocol ... -/
theorem gen_dataReceived_message_queue (s : State) (data : List Nat) :
    ((protoDataReceived s.erase data).2.flatMap protoMessageReceived).map Item.msg = (dataReceived .message s data).2 := by
  rw [← (gen_dataReceived .message s data).2, List.map_flatMap]
  simp only [gen_messageReceived_message]

/-- ... and of the payload protocol -/
theorem gen_dataReceived_payload_queue (s : State) (data : List Nat) :
    ((protoDataReceived s.erase data).2.flatMap protoPayloadReceived).map Item.payload = (dataReceived .payload s data).2 := by
  rw [← (gen_dataReceived .payload s data).2, List.map_flatMap]
  simp only [gen_messageReceived_payload]

end Amshan.C13
