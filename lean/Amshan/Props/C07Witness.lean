import Amshan.Props.C07
/-
  C07 — non-vacuity witnesses on the REAL Aidon list 3 of tests/test_aidon.py (NOTIFICATION_BODY_NO_LIST_3,
  17 elements: three texts, four powers, two signed 16-bit currents and three unsigned 16-bit voltages
  with scaler −1, a clock element, four energies with scaler +1) re-expressed with the Spec encoder, with the
  real LLC/APDU header E6 E7 00 0F 40000000 00; plus a variant with a NEGATIVE current and boundary registers.
-/
namespace Amshan.C07.Witness
set_option linter.defProp false
open Amshan.Gen Amshan.Cosem Amshan.ListSpec

def hexVal (c : Char) : Nat :=
  if c.isDigit then c.toNat - 48 else if c.toNat ≥ 97 then c.toNat - 87 else c.toNat - 55

/-- octets of a hex string (as written in the test files) -/
def unhex (x : String) : List Nat :=
  let rec go : List Char → List Nat
    | a :: b :: r => (hexVal a * 16 + hexVal b) :: go r
    | _ => []
  go (x.toList.filter (· != ' '))

def s (x : String) : List Nat := x.toList.map Char.toNat

instance (e : AidonElem) : Decidable e.WF := by cases e <;> unfold AidonElem.WF <;> infer_instance
instance (h : Header) : Decidable h.WF := by
  unfold Header.WF; cases h.clock <;> infer_instance

/-- 2020-01-21 16:00:00, Tuesday, hundredths not specified, deviation 0, status 0 -/
def clk : DateTimeDesc := ⟨2020, 1, 21, 2, 16, 0, 0, none, some 0, 0⟩

def list3 : List AidonElem := [
  .text [1, 1, 0, 2, 129, 255] (s "AIDON_V0001"),
  .text [0, 0, 96, 1, 0, 255] (s "7359992892587665"),
  .text [0, 0, 96, 1, 7, 255] (s "6525"),
  .reg [1, 0, 1, 7, 0, 255] .u32 280 0 27,
  .reg [1, 0, 2, 7, 0, 255] .u32 0 0 27,
  .reg [1, 0, 3, 7, 0, 255] .u32 0 0 29,
  .reg [1, 0, 4, 7, 0, 255] .u32 128 0 29,
  .reg [1, 0, 31, 7, 0, 255] .s16 13 (-1) 33,
  .reg [1, 0, 71, 7, 0, 255] .s16 9 (-1) 33,
  .reg [1, 0, 32, 7, 0, 255] .u16 2276 (-1) 35,
  .reg [1, 0, 52, 7, 0, 255] .u16 2303 (-1) 35,
  .reg [1, 0, 72, 7, 0, 255] .u16 2309 (-1) 35,
  .clock [0, 0, 1, 0, 0, 255] clk,
  .reg [1, 0, 1, 8, 0, 255] .u32 0x0022AB8A 1 30,
  .reg [1, 0, 2, 8, 0, 255] .u32 0 1 30,
  .reg [1, 0, 3, 8, 0, 255] .u32 0xE383 1 32,
  .reg [1, 0, 4, 8, 0, 255] .u32 0x029B5B 1 32]

/-- the Spec encoder reproduces the captured octets -/
example : encAidonBody list3 = [
    "0111",
    "020209060101000281ff0a0b4149444f4e5f5630303031",
    "020209060000600100ff0a1037333539393932383932353837363635",
    "020209060000600107ff0a0436353235020309060100010700ff0600000118",
    "02020f00161b020309060100020700ff0600000000",
    "02020f00161b020309060100030700ff0600000000",
    "02020f00161d020309060100040700ff0600000080",
    "02020f00161d0203090601001f0700ff10000d",
    "02020fff1621020309060100470700ff100009",
    "02020fff1621020309060100200700ff1208e4",
    "02020fff1623020309060100340700ff1208ff",
    "02020fff1623020309060100480700ff120905",
    "02020fff1623020209060000010000ff090c07e4011502100000ff000000",
    "020309060100010800ff060022ab8a",
    "02020f01161e020309060100020800ff0600000000",
    "02020f01161e020309060100030800ff060000e383",
    "02020f011620020309060100040800ff0600029b5b",
    "02020f011620"].flatMap unhex := by
  decide +kernel

/-! ### `aidon_roundtrip_body` : `∀ e ∈ es, e.WF`, `es.length ≤ 255` -/

def wf3 : ∀ e ∈ list3, e.WF := by decide +kernel

example : Aidon.decodeBody (encAidonBody list3) = .dict (aidonExpected list3) := by
  have := aidon_roundtrip_body list3 wf3 (by decide) []
  rwa [List.append_nil] at this

/-- the expected dictionary is the one the test file asserts: 280 W, 1.3 A, 227.6 V, 22 721 380 Wh … -/
example : (aidonExpected list3).lookup "meter_manufacturer" = some (.str (s "Aidon")) ∧
    (aidonExpected list3).lookup "list_ver_id" = some (.str (s "AIDON_V0001")) ∧
    (aidonExpected list3).lookup "meter_id" = some (.str (s "7359992892587665")) ∧
    (aidonExpected list3).lookup "active_power_import" = some (.int 280) ∧
    (aidonExpected list3).lookup "current_l1" = some (.flt (Flt.ofRat false 13 10)) ∧
    (aidonExpected list3).lookup "voltage_l1" = some (.flt (Flt.ofRat false 2276 10)) ∧
    (aidonExpected list3).lookup "active_power_import_total" = some (.flt (Flt.ofRat false 22721380 1)) ∧
    (aidonExpected list3).lookup "meter_datetime" = some (.dt ⟨2020, 1, 21, 16, 0, 0, 0, some 0⟩) ∧
    (aidonExpected list3).length = 18 := by
  decide +kernel

/-! ### `aidon_roundtrip_frame` : additionally `hd.WF` -/

/-- E6 E7 00 | 0F | 40 00 00 00 | 00 (null date-time) -/
def hdr : Header := ⟨[0xE6, 0xE7, 0x00], 0x0F, [0x40, 0, 0, 0], .null⟩

example : hdr.WF ∧ encHeader hdr = unhex "e6e7000f4000000000" ∧
    Aidon.decodeFrame (encHeader hdr ++ encAidonBody list3) = .dict (aidonExpected list3) := by
  refine ⟨by decide, by decide, ?_⟩
  have := aidon_roundtrip_frame hdr (by decide) list3 wf3 (by decide) []
  rwa [List.append_nil] at this

/-- a header with a tagged date-time, and trailing octets after the list -/
example : let h2 : Header := ⟨[0xE6, 0xE7, 0x00], 0x0F, [0, 0, 0, 0], .tagged clk⟩
    h2.WF ∧ Aidon.decodeFrame (encHeader h2 ++ encAidonBody list3 ++ [0xDE, 0xAD]) = .dict (aidonExpected list3) :=
  ⟨by decide, aidon_roundtrip_frame _ (by decide) list3 wf3 (by decide) [0xDE, 0xAD]⟩

/-! ### registers at the boundaries of their types, negative current, scalers −3 … 3, control characters
    in a text -/

def edge : List AidonElem := [
  .reg [1, 0, 31, 7, 0, 255] .s16 (-57) (-1) 33,          -- −5.7 A (export)
  .reg [1, 0, 51, 7, 0, 255] .s16 (-32768) (-2) 33,
  .reg [1, 0, 71, 7, 0, 255] .s16 32767 (-3) 33,
  .reg [1, 0, 1, 8, 0, 255] .u32 4294967295 3 30,
  .reg [1, 0, 32, 7, 0, 255] .u16 65535 2 35,
  .text [0, 0, 96, 1, 0, 255] [0, 9, 65, 127]]

example : (∀ e ∈ edge, e.WF) ∧ Aidon.decodeBody (encAidonBody edge) = .dict (aidonExpected edge) ∧
    (aidonExpected edge).lookup "current_l1" = some (.flt (Flt.ofRat true 57 10)) ∧
    (aidonExpected edge).lookup "current_l2" = some (.flt (Flt.ofRat true 32768 100)) ∧
    (aidonExpected edge).lookup "active_power_import_total" = some (.flt (Flt.ofRat false 4294967295000 1)) := by
  have h : ∀ e ∈ edge, e.WF := by decide +kernel
  have := aidon_roundtrip_body edge h (by decide) []
  rw [List.append_nil] at this
  exact ⟨h, this, by decide +kernel, by decide +kernel, by decide +kernel⟩

/-- the hypotheses are restrictions that matter: a 256-element list and a register out of range are
    excluded (their encodings would not be what the meter sends) -/
example : ¬ (AidonElem.reg [1, 0, 31, 7, 0, 255] .s16 40000 (-1) 33).WF := by decide

end Amshan.C07.Witness
