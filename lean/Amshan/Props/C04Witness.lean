import Amshan.Props.C04
/-
  C04 — non-vacuity witnesses on a REAL readout: tests/test_dlde.py EXAMPLE_DATA_C (Ellevio / Aidon,
  identification line `/ELL5\253833635_A` with one escape sequence, 28 data lines, 712 octets, transmitted
  checksum `80FF`), re-expressed as a `ReadoutDesc`; the Spec encoder computes the same checksum.
  Corrupted variants (on a short Landis+Gyr readout, to keep kernel evaluation cheap): last checksum digit
  changed, lower case + LF, `0000`, one payload octet changed.  A second, short readout without checksum (`!` CR LF) in the style of EXAMPLE_DATA_B.
-/
namespace Amshan.C04.Witness
set_option linter.defProp false
set_option maxRecDepth 100000
open Amshan.Gen Amshan.P1 Amshan.P1Spec Amshan.Py

def s (x : String) : List Nat := x.toList.map Char.toNat

def linesC : List (List Nat) := [
  s "", s "0-0:1.0.0(201020085222W)", s "1-0:1.8.0(00001605.055*kWh)", s "1-0:2.8.0(00000000.131*kWh)",
  s "1-0:3.8.0(00000003.642*kvarh)", s "1-0:4.8.0(00000185.707*kvarh)", s "1-0:1.7.0(0006.000*kW)",
  s "1-0:2.7.0(0000.000*kW)", s "1-0:3.7.0(0000.200*kvar)", s "1-0:4.7.0(0000.470*kvar)",
  s "1-0:21.7.0(0003.172*kW)", s "1-0:41.7.0(0000.441*kW)", s "1-0:61.7.0(0002.386*kW)",
  s "1-0:22.7.0(0000.000*kW)", s "1-0:42.7.0(0000.000*kW)", s "1-0:62.7.0(0000.000*kW)",
  s "1-0:23.7.0(0000.000*kvar)", s "1-0:43.7.0(0000.200*kvar)", s "1-0:63.7.0(0000.000*kvar)",
  s "1-0:24.7.0(0000.222*kvar)", s "1-0:44.7.0(0000.000*kvar)", s "1-0:64.7.0(0000.247*kvar)",
  s "1-0:32.7.0(234.4*V)", s "1-0:52.7.0(233.3*V)", s "1-0:72.7.0(235.1*V)", s "1-0:31.7.0(013.6*A)",
  s "1-0:51.7.0(002.0*A)", s "1-0:71.7.0(010.2*A)"]

/-- EXAMPLE_DATA_C -/
def dC : ReadoutDesc :=
  { man := s "ELL", baud := 53, escs := s "2", ident := s "53833635_A", lines := linesC, checksum := some false }

def rC : Readout := expectedReadout dC

/-- What two examples below need of EXAMPLE_DATA_C, evaluated once: the kernel keeps what it has computed
    only within one check, and a string literal costs it some 18k heartbeats per character.  For the same
    reason the examples of this file evaluate their facts as one conjunction. -/
def dC_eval : (dC.identLine = s "/ELL5\\253833635_A\r\n" ∧ dC.encode.length = 712 ∧
    dC.encode.drop 705 = s "!80FF\r\n" ∧ crc16Arc dC.body = 0x80FF) ∧ rC.endPos + 1 = 706 := by
  decide +kernel

/-- the encoder reproduces the captured text: identification line, and the end line `!80FF` CR LF -/
example : dC.identLine = s "/ELL5\\253833635_A\r\n" ∧ dC.encode.length = 712 ∧
    dC.encode.drop 705 = s "!80FF\r\n" ∧ crc16Arc dC.body = 0x80FF :=
  dC_eval.1

/-! ### `ident_wellformed` : hypothesis `identMatch s = some m` -/

def identC : identMatch (s "/ELL5\\253833635_A") = some ⟨s "ELL", some (s "53833635_A")⟩ := by decide +kernel

example : ∃ (a b c d : Nat) (escs ident tail : List Nat),
    s "/ELL5\\253833635_A" = [47, a, b, c, d] ++ escs.flatMap (fun w => [92, w]) ++ ident ++ tail ∧
    Py.isUpper a = true ∧ Py.isUpper b = true ∧ Py.isAlpha c = true ∧ Py.isDigit d = true ∧
    escs.all Py.isWord = true ∧ ident.all Py.isPrintable = true ∧ ident.length ≤ 16 ∧
    (tail = [] ∨ tail = [10] ∨ tail = [13, 10] ∨ tail = [13, 10, 10]) ∧
    s "ELL" = [a, b, c] ∧ some (s "53833635_A") = (if ident.isEmpty then none else some ident) :=
  ident_wellformed _ _ identC

/-! ### `valid_sound` : hypotheses `Readout.make raw = .ok r`, `r.isValid = .ok true` -/

def makeC : Readout.make dC.encode = .ok rC := by decide +kernel
def validC : rC.isValid = .ok true := by decide +kernel

/-- the text after '!' IS a checksum text in the sense of the specification, with value 0x80FF -/
def textC : IsChecksumText rC.afterBang 0x80FF :=
  ⟨56, 48, 70, 70, 8, 0, 15, 15, [13, 10], by decide +kernel, by decide, by decide, by decide, by decide, by decide,
    Or.inr (Or.inr rfl)⟩

/-- all hypotheses hold, and the conclusion is not empty: the identification line matched and the
    transmitted checksum equals the CRC-16/ARC of the 706 octets from '/' through '!' -/
example : (∃ m, rC.identLine = .ok m) ∧ 0x80FF = crc16Arc (rC.bytes.take (rC.endPos + 1)) ∧ rC.endPos + 1 = 706 := by
  obtain ⟨h1, h2⟩ := valid_sound dC.encode rC makeC validC
  exact ⟨h1, h2 _ textC, dC_eval.2⟩

/-! ### `mismatch_invalid` : `make raw = .ok r`, `IsChecksumText r.afterBang v`, `v ≠ crc` -/

/-- a short readout with checksum (first lines of EXAMPLE_DATA_A, Landis+Gyr E360); the Spec encoder gives `!1AE9` -/
def dS : ReadoutDesc :=
  { man := s "LGF", baud := 53, escs := [], ident := s "E360",
    lines := [s "", s "0-0:1.0.0(210222161900W)", s "1-0:1.8.0(00000896.020*kWh)", s "1-0:1.7.0(0000.000*kW)",
              s "1-0:32.7.0(230.1*V)", s "1-0:31.7.0(000.6*A)"],
    checksum := some false }

def dS_eval : (dS.WF ∧ crc16Arc dS.body = 0x1AE9 ∧ dS.encode.drop 134 = s "!1AE9\r\n") ∧ Octets dS.body := by
  decide +kernel

example : dS.WF ∧ crc16Arc dS.body = 0x1AE9 ∧ dS.encode.drop 134 = s "!1AE9\r\n" := dS_eval.1

/-- that readout with another end line -/
def withEnd (e : String) : List Nat := dS.body ++ s e

/-- last digit wrong, upper case -/
example : ∃ r, Readout.make (withEnd "1AE8\r\n") = .ok r ∧ IsChecksumText r.afterBang 0x1AE8 ∧
    0x1AE8 ≠ crc16Arc (r.bytes.take (r.endPos + 1)) ∧ r.isValid = .ok false := by
  obtain ⟨hm, hab, hne⟩ : Readout.make (withEnd "1AE8\r\n") = .ok ⟨withEnd "1AE8\r\n", 134, 11⟩ ∧
      Readout.afterBang ⟨withEnd "1AE8\r\n", 134, 11⟩ = [49, 65, 69, 56] ++ [13, 10] ∧
      0x1AE8 ≠ crc16Arc ((Readout.mk (withEnd "1AE8\r\n") 134 11).bytes.take (134 + 1)) := by decide +kernel
  have ht : IsChecksumText (Readout.afterBang ⟨withEnd "1AE8\r\n", 134, 11⟩) 0x1AE8 :=
    ⟨49, 65, 69, 56, 1, 10, 14, 8, [13, 10], hab, by decide, by decide, by decide, by decide, by decide,
      Or.inr (Or.inr rfl)⟩
  exact ⟨_, hm, ht, hne, mismatch_invalid _ _ hm _ ht hne⟩

/-- lower case, LF only, first digit wrong -/
example : ∃ r, Readout.make (withEnd "9ae9\n") = .ok r ∧ r.isValid = .ok false := by
  obtain ⟨hm, hab, hne⟩ : Readout.make (withEnd "9ae9\n") = .ok ⟨withEnd "9ae9\n", 134, 11⟩ ∧
      Readout.afterBang ⟨withEnd "9ae9\n", 134, 11⟩ = [57, 97, 101, 57] ++ [10] ∧
      0x9AE9 ≠ crc16Arc ((Readout.mk (withEnd "9ae9\n") 134 11).bytes.take (134 + 1)) := by decide +kernel
  exact ⟨_, hm, mismatch_invalid _ _ hm 0x9AE9
    ⟨57, 97, 101, 57, 9, 10, 14, 9, [10], hab, by decide, by decide, by decide, by decide, by decide,
      Or.inr (Or.inl rfl)⟩ hne⟩

/-- the checksum field 0000 on a readout whose CRC is not zero (defect D2 of DESIGN.md): not valid -/
example : ∃ r, Readout.make (withEnd "0000\r\n") = .ok r ∧ r.isValid = .ok false := by
  obtain ⟨hm, hab, hne⟩ : Readout.make (withEnd "0000\r\n") = .ok ⟨withEnd "0000\r\n", 134, 11⟩ ∧
      Readout.afterBang ⟨withEnd "0000\r\n", 134, 11⟩ = [48, 48, 48, 48] ++ [13, 10] ∧
      0 ≠ crc16Arc ((Readout.mk (withEnd "0000\r\n") 134 11).bytes.take (134 + 1)) := by decide +kernel
  exact ⟨_, hm, mismatch_invalid _ _ hm 0
    ⟨48, 48, 48, 48, 0, 0, 0, 0, [13, 10], hab, by decide, by decide, by decide, by decide, by decide,
      Or.inr (Or.inr rfl)⟩ hne⟩

/-- one payload octet changed (896.020 → 897.020 kWh), checksum field untouched: not valid -/
example : ∃ r, Readout.make (dS.encode.set 56 55) = .ok r ∧ r.isValid = .ok false := by
  obtain ⟨hm, hab, hne⟩ : Readout.make (dS.encode.set 56 55) = .ok ⟨dS.encode.set 56 55, 134, 11⟩ ∧
      Readout.afterBang ⟨dS.encode.set 56 55, 134, 11⟩ = [49, 65, 69, 57] ++ [13, 10] ∧
      0x1AE9 ≠ crc16Arc ((Readout.mk (dS.encode.set 56 55) 134 11).bytes.take (134 + 1)) := by decide +kernel
  exact ⟨_, hm, mismatch_invalid _ _ hm 0x1AE9
    ⟨49, 65, 69, 57, 1, 10, 14, 9, [13, 10], hab, by decide, by decide, by decide, by decide, by decide,
      Or.inr (Or.inr rfl)⟩ hne⟩

/-! ### `valid_complete` : hypothesis `d.WF` -/

def wfC : dC.WF := by decide +kernel

example : Readout.make dC.encode = .ok rC ∧ rC.isValid = .ok true ∧ rC.payload = dC.payload ∧
    rC.identLine = .ok { manid := s "ELL", ident := some (s "53833635_A") } := by
  obtain ⟨h1, h2, h3, h4⟩ := valid_complete dC wfC
  exact ⟨h1, h2, h3, h4⟩

/-- a readout without checksum (EXAMPLE_DATA_B style: `!` CR LF), no identification escape, 16-character id -/
def dB : ReadoutDesc :=
  { man := s "XMX", baud := 53, escs := [], ident := s "LGBBFFB231314239",
    lines := [s "", s "1-3:0.2.8(42)", s "0-0:1.0.0(180924132132S)", s "1-0:1.8.1(011522.839*kWh)",
              s "0-0:96.13.1()", s "0-1:24.2.1(180924130000S)(04890.857*m3)"],
    checksum := none }

example : dB.WF ∧ dB.encode.drop (dB.encode.length - 3) = s "!\r\n" ∧
    (expectedReadout dB).isValid = .ok true := by
  have h : dB.WF ∧ dB.encode.drop (dB.encode.length - 3) = s "!\r\n" := by decide +kernel
  exact ⟨h.1, h.2, (valid_complete dB h.1).2.1⟩

/-! ### `payload_exact` : `make raw = .ok r`, the decomposition, no LF in `a`, no '!' before the end
    (on the short readout; `a` = identification line without its LF, `z` = checksum and line end) -/

example : ∃ r, Readout.make dS.encode = .ok r ∧
    r.bytes = s "/LGF5E360\r" ++ [10] ++ dS.payload ++ [33] ++ s "1AE9\r\n" ∧
    10 ∉ s "/LGF5E360\r" ∧ 33 ∉ s "/LGF5E360\r" ++ [10] ++ dS.payload ∧
    r.payload = dS.payload ∧ dS.payload.length = 123 := by
  obtain ⟨hm, hb, ha, hp, hl⟩ : Readout.make dS.encode = .ok (expectedReadout dS) ∧
      (expectedReadout dS).bytes = s "/LGF5E360\r" ++ [10] ++ dS.payload ++ [33] ++ s "1AE9\r\n" ∧
      10 ∉ s "/LGF5E360\r" ∧ 33 ∉ s "/LGF5E360\r" ++ [10] ++ dS.payload ∧ dS.payload.length = 123 := by
    decide +kernel
  exact ⟨_, hm, hb, ha, hp, payload_exact dS.encode _ hm _ _ _ hb ha hp, hl⟩

/-! ### `crc_lt` : `Octets bs` -/
example : Octets dS.body ∧ crc16Arc dS.body < 65536 := ⟨dS_eval.2, crc_lt _ dS_eval.2⟩

end Amshan.C04.Witness
