import Amshan.Lemmas.HdlcRun
/-
  C06 — HDLC reader output does not depend on how the byte stream is chunked.
  Model: Amshan/Model/Hdlc.lean.  `read` is the buffer-level model of HdlcFrameReader.read(),
  `run` the octet-at-a-time machine.
-/
namespace Amshan.C06
open Amshan.Hdlc

/-- One `read()` call equals running the per-octet machine over the chunk, and leaves the input
    buffer empty (nothing unread crosses a call). -/
theorem read_eq_run (cfg : Cfg) (r : Reader) (chunk : List Nat) (hr : r.buf = Buf.empty) :
    read cfg r chunk =
      ({ core := (run cfg r.core chunk).1, buf := Buf.empty }, (run cfg r.core chunk).2) :=
  Amshan.Hdlc.read_eq_run cfg r chunk hr

theorem reachable_buf_empty (cfg : Cfg) (r : Reader) (h : Reachable cfg r) : r.buf = Buf.empty :=
  Reachable.buf_empty h

/-- Any sequence of `read()` calls equals one run over the concatenated stream. -/
theorem readAll_eq_run (cfg : Cfg) (r : Reader) (chunks : List (List Nat)) (hr : r.buf = Buf.empty) :
    (readAll cfg r chunks).2.flatten = (run cfg r.core chunks.flatten).2 ∧
    (readAll cfg r chunks).1 = { core := (run cfg r.core chunks.flatten).1, buf := Buf.empty } :=
  Amshan.Hdlc.readAll_eq_run cfg r chunks hr

/-- **C06.** For every stream, every two splittings of it into `read()` calls, every configuration and
    every reachable reader state: the same frames (all fields) come out and the reader ends in the
    same state. -/
theorem chunk_independent (cfg : Cfg) (r : Reader) (hr : Reachable cfg r)
    (cs₁ cs₂ : List (List Nat)) (h : cs₁.flatten = cs₂.flatten) :
    (readAll cfg r cs₁).2.flatten = (readAll cfg r cs₂).2.flatten ∧
    (readAll cfg r cs₁).1 = (readAll cfg r cs₂).1 := by
  have hb : r.buf = Buf.empty := reachable_buf_empty cfg r hr
  obtain ⟨f1, s1⟩ := readAll_eq_run cfg r cs₁ hb
  obtain ⟨f2, s2⟩ := readAll_eq_run cfg r cs₂ hb
  rw [f1, f2, s1, s2, h]
  exact ⟨rfl, rfl⟩

/-- non-vacuity: two different splittings of a stream with a flag, an escape and a frame start -/
example : ([[0x7E, 0xA0], [0x7D, 0x5E, 0x7E]] : List (List Nat)).flatten =
    ([[0x7E], [0xA0, 0x7D], [0x5E, 0x7E]] : List (List Nat)).flatten := by decide

end Amshan.C06
