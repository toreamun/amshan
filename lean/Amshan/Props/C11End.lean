import Amshan.Lemmas.P1ParseRT
import Amshan.Lemmas.FloatBound
import Amshan.Lemmas.FloatStr
/-
  C11, end to end — from the decimal TEXT a meter transmits to the decoded value.  `C11.decode_plain_unit` /
  `decode_kilo_unit` take `Flt.ofStr value = .ok f` as a hypothesis and `C11.kilo_unit_bound` is about
  `Flt.ofRat false m (10^k)`; here the link is closed through `float(text) = ofRat (all digits as one integer)
  (10 ^ number of fraction digits)`.
  In all statements `ip` are the digits before the point, `fp` the digits after it, the transmitted value is
  m / 10^k with m = `digitsVal (ip ++ fp)` (= `digitsVal ip` · 10^k + `digitsVal fp`, see `decimal_value`)
  and k = `fp.length`.
-/
namespace Amshan.C11
open Amshan.Gen Amshan.Cosem Amshan.P1Parse Amshan.Flt

/-- **`float(text)` of a plain decimal text** (model of CPython's `float(str)`, Model/Float.lean): optional sign,
    digits `ip`, '.', digits `fp` (not both empty; leading zeros allowed; any number of digits) parses to the double nearest to (`ip fp` read as one integer) / 10^|fp|. -/
theorem ofStr_decimal (sign : Option Bool) (ip fp : List Nat)
    (hip : ∀ c ∈ ip, Py.isDigit c = true) (hfp : ∀ c ∈ fp, Py.isDigit c = true)
    (hne : ip ≠ [] ∨ fp ≠ []) :
    Flt.ofStr (signChars sign ++ (ip ++ 46 :: fp)) =
      .ok (ofRat (sign == some true) (digitsVal (ip ++ fp)) (10 ^ fp.length)) :=
  Flt.ofStr_decimal sign ip fp hip hfp hne

/-- the same without a decimal point: `float(sign ip)` is the double nearest to the integer `ip` -/
theorem ofStr_decimal_nodot (sign : Option Bool) (ip : List Nat)
    (hip : ∀ c ∈ ip, Py.isDigit c = true) (hne : ip ≠ []) :
    Flt.ofStr (signChars sign ++ ip) = .ok (ofRat (sign == some true) (digitsVal ip) 1) := by
  simpa using ofStr_decimal_signed sign (fp := []) ⟨hip, by simp [AllDigits], Or.inl hne, Or.inr ⟨rfl, rfl⟩⟩

/-- what `digitsVal` is: positional decimal value; leading zeros do not count; n digits are below 10^n -/
theorem decimal_value (ip fp : List Nat) (n : Nat) (d : Nat) :
    digitsVal (ip ++ fp) = digitsVal ip * 10 ^ fp.length + digitsVal fp ∧
    digitsVal (ip ++ [d]) = digitsVal ip * 10 + (d - 48) ∧
    digitsVal (List.replicate n 48 ++ ip) = digitsVal ip ∧
    ((∀ c ∈ ip, Py.isDigit c = true) → digitsVal ip < 10 ^ ip.length) :=
  ⟨digitsVal_append ip fp, digitsVal_snoc ip d, digitsVal_zeros n ip, digitsVal_lt ip⟩

theorem unit_ne_nil (unit : List Nat)
    (h : unitsKilo.contains (Py.lower unit) = true ∨ unitsPlain.contains (Py.lower unit) = true) : unit ≠ [] := by
  rintro rfl
  rcases h with h | h
  · rw [P1ParseRT.unitsKilo_eq] at h; exact absurd h (by decide)
  · rw [P1ParseRT.unitsPlain_eq] at h; exact absurd h (by decide)

/-- **C11 (kW, kWh, kvar, kvarh — end to end).** For every address that parses as an OBIS code, every unit
    spelling that lower-cases to a kilo unit, and every decimal text `ip "." fp` (or just `ip`) of value
    m / 10^k — k ≤ 60 fraction digits, and `m · 10^(3-k) < 2^50` (natural subtraction: for k ≤ 3 the exact
    product value × 1000 is below 2^50; for k ≥ 3 all the digits read as one integer are) — the item decodes
    under the address's field name to an integer z with

        z = ⌊m · 1000 / 10^k⌋   or   z = ⌊m · 1000 / 10^k⌋ − 1 ,

    i.e. within one unit below the exact decimal product and never above it. -/
theorem decode_kilo_decimal (addr unit text ip fp : List Nat) (g : Obis.Groups)
    (hg : Obis.parse addr = .ok g)
    (hu : unitsKilo.contains (Py.lower unit) = true)
    (hip : ∀ c ∈ ip, Py.isDigit c = true) (hfp : ∀ c ∈ fp, Py.isDigit c = true)
    (hne : ip ≠ [] ∨ fp ≠ [])
    (ht : text = ip ++ 46 :: fp ∨ (text = ip ∧ fp = []))
    (hk : fp.length ≤ 60)
    (hE : digitsVal (ip ++ fp) * 10 ^ (3 - fp.length) < 2 ^ 50) :
    ∃ z : Int,
      decodeItem ⟨addr, [⟨text, some unit⟩]⟩ =
        .ok ((match obisNameMap.lookup (Py.toString (Obis.cdeStr g)) with
              | some n => n | none => Py.toString (Obis.cdeStr g)), .int z) ∧
      (z = ((digitsVal (ip ++ fp) * 1000 / 10 ^ fp.length : Nat) : Int) ∨
       z = ((digitsVal (ip ++ fp) * 1000 / 10 ^ fp.length : Nat) : Int) - 1) := by
  have hf : Flt.ofStr text = _ := ofStr_decimal_signed none ⟨hip, hfp, hne, ht⟩
  have hne' := unit_ne_nil unit (Or.inl hu)
  -- stated as an equation: letting `exact` unify the two spellings evaluates the name table.  Inside the proof
  -- and not as a lemma above: a `match` of this shape elaborated earlier in the file would give the matcher in
  -- the statements another name
  have hn : P1ParseRT.itemName g = (match obisNameMap.lookup (Py.toString (Obis.cdeStr g)) with
      | some n => n | none => Py.toString (Obis.cdeStr g)) := by
    unfold P1ParseRT.itemName; generalize obisNameMap.lookup _ = o; cases o <;> rfl
  rw [← hn]
  rcases kilo_unit_bound_any (digitsVal (ip ++ fp)) fp.length (by omega) hE with hz | hz
  · exact ⟨_, P1ParseRT.decodeItem_kilo addr text unit g _ _ hg hu hne' hf hz, Or.inl rfl⟩
  · exact ⟨_, P1ParseRT.decodeItem_kilo addr text unit g _ _ hg hu hne' hf hz, Or.inr rfl⟩

/-- the side condition of `decode_kilo_decimal` from the SHAPE of the text alone: any number of leading zeros,
    then integer digits `ip` and fraction digits `fp` with |ip| + max |fp| 3 ≤ 15 (10^15 < 2^50) — in
    particular every value with up to 10 integer and up to 4 fraction digits. -/
theorem decode_kilo_decimal_digits (addr unit text ip fp : List Nat) (zeros : Nat) (g : Obis.Groups)
    (hg : Obis.parse addr = .ok g)
    (hu : unitsKilo.contains (Py.lower unit) = true)
    (hip : ∀ c ∈ ip, Py.isDigit c = true) (hfp : ∀ c ∈ fp, Py.isDigit c = true)
    (hne : zeros ≠ 0 ∨ ip ≠ [] ∨ fp ≠ [])
    (ht : text = (List.replicate zeros 48 ++ ip) ++ 46 :: fp ∨ (text = List.replicate zeros 48 ++ ip ∧ fp = []))
    (hlen : ip.length + fp.length ≤ 15) (hlen3 : ip.length + 3 ≤ 15) :
    ∃ z : Int,
      decodeItem ⟨addr, [⟨text, some unit⟩]⟩ =
        .ok ((match obisNameMap.lookup (Py.toString (Obis.cdeStr g)) with
              | some n => n | none => Py.toString (Obis.cdeStr g)), .int z) ∧
      (z = ((digitsVal (ip ++ fp) * 1000 / 10 ^ fp.length : Nat) : Int) ∨
       z = ((digitsVal (ip ++ fp) * 1000 / 10 ^ fp.length : Nat) : Int) - 1) := by
  have hval : digitsVal ((List.replicate zeros 48 ++ ip) ++ fp) = digitsVal (ip ++ fp) := by
    rw [List.append_assoc, digitsVal_zeros]
  have hzd : ∀ c ∈ List.replicate zeros 48 ++ ip, Py.isDigit c = true :=
    List.forall_mem_append.mpr ⟨fun c h => by rw [(List.mem_replicate.mp h).2]; decide, hip⟩
  have hlt := digitsVal_lt (ip ++ fp) (List.forall_mem_append.mpr ⟨hip, hfp⟩)
  rw [List.length_append] at hlt
  -- m < 10^(|ip|+|fp|), and |ip| + |fp| + (3 - |fp|) = |ip| + max |fp| 3 ≤ 15
  have hE : digitsVal (ip ++ fp) * 10 ^ (3 - fp.length) < 2 ^ 50 :=
    calc digitsVal (ip ++ fp) * 10 ^ (3 - fp.length)
        < 10 ^ (ip.length + fp.length) * 10 ^ (3 - fp.length) :=
          Nat.mul_lt_mul_of_pos_right hlt (Nat.pow_pos (by decide))
      _ = 10 ^ (ip.length + fp.length + (3 - fp.length)) := (Nat.pow_add ..).symm
      _ ≤ 10 ^ 15 := Nat.pow_le_pow_right (by decide) (by omega)
      _ < 2 ^ 50 := by decide
  have hne2 : List.replicate zeros 48 ++ ip ≠ [] ∨ fp ≠ [] := by
    rwa [Ne, List.append_eq_nil_iff, List.replicate_eq_nil_iff, not_and_or, or_assoc]
  have := decode_kilo_decimal addr unit text (List.replicate zeros 48 ++ ip) fp g hg hu hzd hfp hne2 ht
    (by omega) (by rw [hval]; exact hE)
  rwa [hval] at this

/-- **C11 (V, A, var, varh — end to end).** The decoded value is the double nearest to the transmitted decimal
    m / 10^k (`ofRat` rounds to nearest, ties to even), for any number of leading zeros and any letter case of
    the unit. -/
theorem decode_plain_decimal (addr unit text ip fp : List Nat) (g : Obis.Groups)
    (hg : Obis.parse addr = .ok g)
    (hu : unitsPlain.contains (Py.lower unit) = true)
    (hip : ∀ c ∈ ip, Py.isDigit c = true) (hfp : ∀ c ∈ fp, Py.isDigit c = true)
    (hne : ip ≠ [] ∨ fp ≠ [])
    (ht : text = ip ++ 46 :: fp ∨ (text = ip ∧ fp = [])) :
    decodeItem ⟨addr, [⟨text, some unit⟩]⟩ =
      .ok ((match obisNameMap.lookup (Py.toString (Obis.cdeStr g)) with
            | some n => n | none => Py.toString (Obis.cdeStr g)),
           .flt (ofRat false (digitsVal (ip ++ fp)) (10 ^ fp.length))) := by
  have hf : Flt.ofStr text = _ := ofStr_decimal_signed none ⟨hip, hfp, hne, ht⟩
  -- as in `decode_kilo_decimal`
  have hn : P1ParseRT.itemName g = (match obisNameMap.lookup (Py.toString (Obis.cdeStr g)) with
      | some n => n | none => Py.toString (Obis.cdeStr g)) := by
    unfold P1ParseRT.itemName; generalize obisNameMap.lookup _ = o; cases o <;> rfl
  rw [← hn]
  exact P1ParseRT.decodeItem_plain addr text unit g _ hg hu (unit_ne_nil unit (Or.inr hu)) hf

/-- … and numerically: for a non-zero value with at most 60 fraction digits whose digits, read as one integer,
    are at most 2^200, the decoded float is finite, normalised, and within a relative 2^-53 (half a unit in the
    last place) of the transmitted decimal -/
theorem decode_plain_decimal_error (addr unit text ip fp : List Nat) (g : Obis.Groups)
    (hg : Obis.parse addr = .ok g)
    (hu : unitsPlain.contains (Py.lower unit) = true)
    (hip : ∀ c ∈ ip, Py.isDigit c = true) (hfp : ∀ c ∈ fp, Py.isDigit c = true)
    (hne : ip ≠ [] ∨ fp ≠ [])
    (ht : text = ip ++ 46 :: fp ∨ (text = ip ∧ fp = []))
    (hk : fp.length ≤ 60)
    (hm0 : 0 < digitsVal (ip ++ fp)) (hmb : digitsVal (ip ++ fp) ≤ 2 ^ 200) :
    ∃ (mf : Nat) (ef : Int),
      decodeItem ⟨addr, [⟨text, some unit⟩]⟩ =
        .ok ((match obisNameMap.lookup (Py.toString (Obis.cdeStr g)) with
              | some n => n | none => Py.toString (Obis.cdeStr g)), .flt (.fin false mf ef)) ∧
      2 ^ 52 ≤ mf ∧
      |(mf : ℚ) * (2 : ℚ) ^ ef - (digitsVal (ip ++ fp) : ℚ) / ((10 ^ fp.length : Nat) : ℚ)|
        ≤ (digitsVal (ip ++ fp) : ℚ) / ((10 ^ fp.length : Nat) : ℚ) / 2 ^ 53 := by
  have hmb' : (digitsVal (ip ++ fp) : ℚ) ≤ 2 ^ 200 := by exact_mod_cast hmb
  have h10 : (1 : ℚ) ≤ ((10 ^ fp.length : Nat) : ℚ) := by exact_mod_cast Nat.one_le_pow _ _ (by decide)
  have hr := near_range (decimal_ge hm0 (by omega))
    (le_trans (div_le_self (by positivity) h10) (le_trans hmb' (pow_le_pow_right₀ (by norm_num) (by norm_num))))
    (near_self (by positivity))
  obtain ⟨⟨mf, ef, heq, hmf⟩, herr⟩ := ofRat_near (digitsVal (ip ++ fp)) (10 ^ fp.length) hm0
    (Nat.pow_pos (by decide)) hr.1 hr.2
  rw [heq, val_fin_false] at herr
  refine ⟨mf, ef, ?_, hmf, herr⟩
  rw [← heq]
  exact decode_plain_decimal addr unit text ip fp g hg hu hip hfp hne ht

/-- "1.011" kW (the repository's own test value): float("1.011") * 1000 = 1010.9999999999999, truncated to
    1010 = ⌊1.011 × 1000⌋ − 1 — the "one less" case is real -/
example : decodeItem ⟨Py.ofString "1-0:1.7.0", [⟨Py.ofString "1.011", some (Py.ofString "kW")⟩]⟩ =
    .ok ("active_power_import", .int 1010) ∧ (1011 * 1000 / 10 ^ 3 : Nat) = 1011 := by decide +kernel

/-- "00001605.055" kWh: exact, 1605055 = ⌊1605.055 × 1000⌋ -/
example : decodeItem ⟨Py.ofString "1-0:1.8.0", [⟨Py.ofString "00001605.055", some (Py.ofString "kWh")⟩]⟩ =
    .ok ("active_power_import_total", .int 1605055) ∧ (1605055 * 1000 / 10 ^ 3 : Nat) = 1605055 := by
  decide +kernel

/-- four fraction digits: "1.0115" kW → ⌊1011.5⌋ = 1011 -/
example : decodeItem ⟨Py.ofString "1-0:1.7.0", [⟨Py.ofString "1.0115", some (Py.ofString "KW")⟩]⟩ =
    .ok ("active_power_import", .int 1011) ∧ (10115 * 1000 / 10 ^ 4 : Nat) = 1011 := by decide +kernel

/-- the hypotheses of `decode_kilo_decimal` hold for "1.011" kW (non-vacuity), and its conclusion is the pair
    {1011, 1010} -/
example : ∃ z : Int, decodeItem ⟨Py.ofString "1-0:1.7.0", [⟨Py.ofString "1.011", some (Py.ofString "kW")⟩]⟩ =
    .ok ("active_power_import", .int z) ∧ (z = 1011 ∨ z = 1011 - 1) :=
  decode_kilo_decimal (Py.ofString "1-0:1.7.0") (Py.ofString "kW") (Py.ofString "1.011") (Py.ofString "1")
    (Py.ofString "011") (some 1, some 0, 1, 7, some 0, none) (by rfl) (by decide) (by decide) (by decide)
    (by decide) (by decide) (by decide) (by decide)

/-- … and for "00001605.055" kWh through the shape-only form (4 leading zeros, 4 + 3 digits) -/
example : ∃ z : Int,
    decodeItem ⟨Py.ofString "1-0:1.8.0", [⟨Py.ofString "00001605.055", some (Py.ofString "kWh")⟩]⟩ =
      .ok ("active_power_import_total", .int z) ∧ (z = 1605055 ∨ z = 1605055 - 1) :=
  decode_kilo_decimal_digits (Py.ofString "1-0:1.8.0") (Py.ofString "kWh") (Py.ofString "00001605.055")
    (Py.ofString "1605") (Py.ofString "055") 4 (some 1, some 0, 1, 8, some 0, none) (by rfl) (by decide)
    (by decide) (by decide) (by decide) (by decide) (by decide) (by decide)

/-- "230.1" V: the nearest double to 2301/10 -/
example : decodeItem ⟨Py.ofString "1-0:32.7.0", [⟨Py.ofString "230.1", some (Py.ofString "V")⟩]⟩ =
    .ok ("voltage_l1", .flt (ofRat false 2301 (10 ^ 1))) :=
  decode_plain_decimal (Py.ofString "1-0:32.7.0") (Py.ofString "V") (Py.ofString "230.1") (Py.ofString "230")
    (Py.ofString "1") (some 1, some 0, 32, 7, some 0, none) (by rfl) (by decide) (by decide) (by decide)
    (by decide) (by decide)

/-- which is 0x1.cc33333333333p+7 = 8095924017640243 · 2^-45, as CPython's `float('230.1').hex()` says -/
example : ofRat false 2301 (10 ^ 1) = .fin false 8095924017640243 (-45) ∧
    Flt.ofStr (Py.ofString "230.1") = .ok (.fin false 8095924017640243 (-45)) := by decide +kernel

/-- a signed text and a text without integer digits, through `ofStr_decimal` -/
example : Flt.ofStr (Py.ofString "-0.5") = .ok (ofRat true 5 (10 ^ 1)) ∧
    Flt.ofStr (Py.ofString ".25") = .ok (ofRat false 25 (10 ^ 2)) ∧
    Flt.ofStr (Py.ofString "+0042") = .ok (ofRat false 42 1) :=
  ⟨ofStr_decimal (some true) (Py.ofString "0") (Py.ofString "5") (by decide) (by decide) (by decide),
   ofStr_decimal none [] (Py.ofString "25") (by decide) (by decide) (by decide),
   ofStr_decimal_nodot (some false) (Py.ofString "0042") (by decide) (by decide)⟩

end Amshan.C11
