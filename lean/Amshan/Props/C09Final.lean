import Amshan.Props.C09
import Amshan.Props.C11Float
/- C09 with the floating-point hypothesis discharged (see Props/C11Float.lean). -/
namespace Amshan.C09
open Amshan.Cosem Amshan.ListSpec

theorem scaledCorrect : ScaledCorrect := Amshan.C11.scaled_correct

theorem kamstrup_body_final (l : KamList) (h : l.WF) :
    Kamstrup.decodeBody (encKamList l) = .dict (kamExpected l) :=
  kamstrup_body scaledCorrect l h

theorem kamstrup_frame_final (hd : Header) (hh : hd.WF) (hc : hd.clock ≠ .null) (l : KamList) (h : l.WF) :
    Kamstrup.decodeFrame (encHeader hd ++ encKamList l) =
      .dict ((kamExpected l).set "meter_datetime" (.dt (match hd.clock with
        | .tagged d => expectedDT d | .untagged d => expectedDT d | .null => default))) :=
  kamstrup_frame scaledCorrect hd hh hc l h

end Amshan.C09
