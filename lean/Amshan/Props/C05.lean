import Amshan.Lemmas.P1CleanInv
/-
  C05 — every P1 readout on a clean stream is delivered once, in order, byte-identical and valid,
  for every way of splitting the stream into read() calls and for streams of any total length.
  (Valid: the objects delivered are the `expectedReadout d`, which `C04.valid_complete` shows valid.)
-/
namespace Amshan.C05
open Amshan.Gen Amshan.P1 Amshan.P1Spec

theorem guard_pin : p1Guard = 8191 := by decide

/-- **C05.** `tail` is the (optional) rest of a readout the reader joined in the middle of: any
    bytes without a start character. Each readout fits the reader's size guard. -/
theorem p1_clean_delivered (tail : List Nat) (ds : List ReadoutDesc) (chunks : List (List Nat))
    (htail : Octets tail ∧ p1Start ∉ tail)
    (hds : ∀ d ∈ ds, d.WF ∧ d.encode.length ≤ p1Guard)
    (hch : chunks.flatten = tail ++ ds.flatMap ReadoutDesc.encode) :
    ∃ r outs, readAll Reader.init chunks = .ok (r, outs) ∧
      outs.flatten = ds.map expectedReadout :=
  readAll_clean Reader.init rfl rfl (fun h => nomatch h) tail htail.2 ds hds chunks hch

end Amshan.C05
