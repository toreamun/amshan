import Amshan.Props.C11
import Amshan.Props.C11Float
/-
  C11 — non-vacuity witnesses on REAL data lines of tests/test_dlde.py (EXAMPLE_DATA_B / _C): a blank line,
  the clock, energies in kWh, power in kW, reactive power in kvar (lower case) and kVAr (mixed case), voltage,
  current, an empty value `0-0:96.13.1()`, a data set with SIX values (`1-0:99.97.0(5)(0-0:96.7.19)…`), a data
  set with two values (`0-1:24.2.1(180924130000S)(04890.857*m3)`), LF-only and CR LF line ends, two data sets on
  one line.
-/
namespace Amshan.C11.Witness
set_option linter.defProp false
open Amshan.Gen Amshan.Cosem Amshan.P1Parse Amshan.P1BlockSpec

def s (x : String) : List Nat := x.toList.map Char.toNat

/-- (instance search does not find `DecidableEq` of the six-fold product by itself) -/
instance : DecidableEq Obis.Groups := fun g h => inferInstanceAs (Decidable (g = h))

/-- the dictionary of a successful result -/
def dictOf (r : Except PyExc Dict) : Dict := match r with | .ok d => d | .error _ => []

instance (v : ValueDesc) : Decidable v.WF := by unfold ValueDesc.WF; cases v.unit <;> infer_instance
instance (d : DataSetDesc) : Decidable d.WF := by unfold DataSetDesc.WF; infer_instance
instance (l : LineDesc) : Decidable l.WF := by unfold LineDesc.WF; infer_instance

def v (value : String) (unit : Option String := none) : ValueDesc := ⟨s value, unit.map s⟩
def one (addr value : String) (unit : Option String := none) : LineDesc := ⟨[⟨s addr, [v value unit]⟩], true⟩

def block : List LineDesc := [
  ⟨[], true⟩,                                                        -- blank line
  one "0-0:1.0.0" "201020085222W",
  one "1-0:1.8.0" "00001605.055" (some "kWh"),
  one "1-0:1.7.0" "0006.000" (some "kW"),
  one "1-0:3.7.0" "0000.200" (some "kvar"),
  one "1-0:4.7.0" "0000.308" (some "kVAr"),
  one "1-0:32.7.0" "234.4" (some "V"),
  one "1-0:31.7.0" "013.6" (some "A"),
  one "0-0:96.13.1" "",
  ⟨[⟨s "1-0:99.97.0", [v "5", v "0-0:96.7.19", v "170520130938S", v "0000005627" (some "s"), v "170325044014W",
      v "0043178677" (some "s")]⟩], true⟩,
  ⟨[⟨s "0-1:24.2.1", [v "180924130000S", v "04890.857" (some "m3")]⟩], false⟩,                -- LF only
  ⟨[⟨s "1-0:21.7.0", [v "0003.172" (some "kW")]⟩, ⟨s "1-0:22.7.0", [v "0000.000" (some "kW")]⟩], true⟩]

/-- the rendering is the text the meter sends -/
example : render block = [
    "\r\n", "0-0:1.0.0(201020085222W)\r\n", "1-0:1.8.0(00001605.055*kWh)\r\n", "1-0:1.7.0(0006.000*kW)\r\n",
    "1-0:3.7.0(0000.200*kvar)\r\n", "1-0:4.7.0(0000.308*kVAr)\r\n", "1-0:32.7.0(234.4*V)\r\n", "1-0:31.7.0(013.6*A)\r\n",
    "0-0:96.13.1()\r\n", "1-0:99.97.0(5)(0-0:96.7.19)(170520130938S)(0000005627*s)", "(170325044014W)(0043178677*s)\r\n",
    "0-1:24.2.1(180924130000S)(04890.857*m3)\n", "1-0:21.7.0(0003.172*kW)1-0:22.7.0(0000.000*kW)\r\n"].flatMap s := by
  decide +kernel

/-! ### `parse_block`, `decode_block` : hypothesis `∀ l ∈ b, l.WF` -/

def wfBlock : ∀ l ∈ block, l.WF := by decide +kernel

/-- 12 data sets come out (the six- and the two-valued ones included), in order -/
example : ∃ iters, parseContent (render block) = .ok (expectedSets block, iters) ∧ (expectedSets block).length = 12 ∧
    iters ≤ (render block).length := by
  obtain ⟨iters, h⟩ := parse_block block wfBlock
  exact ⟨iters, h, by decide +kernel, parse_cost_tight _ _ _ h⟩

/-- `parse_cost` : hypothesis `parseContent data = .ok (items, iters)` (same instance) -/
example : ∃ iters, parseContent (render block) = .ok (expectedSets block, iters) ∧ iters ≤ 2 * (render block).length + 2 := by
  obtain ⟨iters, h⟩ := parse_block block wfBlock
  exact ⟨iters, h, parse_cost _ _ _ h⟩

/-- the decoded dictionary of the block, evaluated: names, exact W/var, V and A as sent, clock, verbatim -/
example : decodeContent (render block) = decodeParsed (expectedSets block) ∧
    let d := dictOf (decodeParsed (expectedSets block))
    decodeParsed (expectedSets block) = .ok d ∧
      d.lookup "meter_datetime" = some (.dt ⟨2020, 10, 20, 8, 52, 22, 0, none⟩) ∧
      d.lookup "active_power_import_total" = some (.int 1605055) ∧
      d.lookup "active_power_import" = some (.int 6000) ∧
      d.lookup "reactive_power_import" = some (.int 200) ∧
      d.lookup "reactive_power_export" = some (.int 308) ∧
      d.lookup "voltage_l1" = some (.flt (Flt.ofRat false 2344 10)) ∧
      d.lookup "current_l1" = some (.flt (Flt.ofRat false 136 10)) ∧
      d.lookup "96.13.1" = some (.str []) ∧
      d.lookup "active_power_import_l1" = some (.int 3172) ∧
      d.lookup "99.97.0" = none ∧ d.lookup "24.2.1" = none := by
  refine ⟨?_, ?_⟩
  · rw [decode_block block wfBlock]; rfl
  · decide +kernel

/-! ### `decode_name` : `Obis.parse item.address = .ok g`, `decodeItem item = .ok (k, v)` -/

def gPower : Obis.Groups := (some 1, some 0, 1, 7, some 0, none)

example : Obis.parse (s "1-0:1.7.0") = .ok gPower ∧
    decodeItem ⟨s "1-0:1.7.0", [⟨s "0006.000", some (s "kW")⟩]⟩ = .ok ("active_power_import", .int 6000) ∧
    "active_power_import" = (match obisNameMap.lookup (Py.toString (Obis.cdeStr gPower)) with
         | some n => n | none => Py.toString (Obis.cdeStr gPower)) := by
  -- one evaluation for both hypotheses: the kernel keeps what it has computed only within one check, and a
  -- string literal costs it some 18k heartbeats per character
  have h : Obis.parse (s "1-0:1.7.0") = .ok gPower ∧
      decodeItem ⟨s "1-0:1.7.0", [⟨s "0006.000", some (s "kW")⟩]⟩ = .ok ("active_power_import", .int 6000) := by
    decide +kernel
  -- `gPower` is given: left to unification against the `match` of the statement, it is found by evaluating
  -- the lookup in `obisNameMap`
  exact ⟨h.1, h.2, decode_name _ _ _ gPower h.1 h.2⟩

/-- an address unknown to the name table: the key is the C.D.E text -/
example : decodeItem ⟨s "0-0:96.13.1", [⟨[], none⟩]⟩ = .ok ("96.13.1", .str []) := by decide +kernel

/-! ### `decode_verbatim` : parsed address, not the clock code -/

example : Obis.parse (s "0-0:96.14.0") = .ok (some 0, some 0, 96, 14, some 0, none) ∧
    Obis.cdeStr (some 0, some 0, 96, 14, some 0, none) ≠ clockCde ∧
    ∃ k, decodeItem ⟨s "0-0:96.14.0", [⟨s "0002", none⟩]⟩ = .ok (k, .str (s "0002")) :=
  ⟨by decide +kernel, by decide +kernel,
   decode_verbatim _ _ (some 0, some 0, 96, 14, some 0, none) (by decide +kernel) (by decide +kernel)⟩

/-! ### `decode_plain_unit` : unit ∈ {V, A, var, varh} in any case, `Flt.ofStr value = .ok f` -/

example : unitsPlain.contains (Py.lower (s "V")) = true ∧ s "V" ≠ [] ∧
    Flt.ofStr (s "234.4") = .ok (Flt.ofRat false 2344 10) ∧
    ∃ k, decodeItem ⟨s "1-0:32.7.0", [⟨s "234.4", some (s "V")⟩]⟩ = .ok (k, .flt (Flt.ofRat false 2344 10)) :=
  ⟨by decide +kernel, by decide +kernel, by decide +kernel,
   decode_plain_unit _ _ _ (some 1, some 0, 32, 7, some 0, none) _ (by decide +kernel) (by decide +kernel)
     (by decide +kernel) (by decide +kernel)⟩

/-- mixed-case unit `VArh` with leading zeros -/
example : ∃ k, decodeItem ⟨s "1-0:3.8.0", [⟨s "00000518.309", some (s "VArh")⟩]⟩ = .ok (k, .flt (Flt.ofRat false 518309 1000)) :=
  decode_plain_unit _ _ _ (some 1, some 0, 3, 8, some 0, none) _ (by decide +kernel) (by decide +kernel)
    (by decide +kernel) (by decide +kernel)

/-! ### `decode_kilo_unit` with `kilo_unit_bound` : the test file's own example 1.011 kW → 1010 W (one below
    the exact product 1011, never above), and an exact one -/

example : unitsKilo.contains (Py.lower (s "kW")) = true ∧
    Flt.ofStr (s "1.011") = .ok (Flt.ofRat false 1011 1000) ∧
    Flt.toInt (Flt.mul (Flt.ofRat false 1011 1000) (Flt.ofNat 1000)) = .ok 1010 ∧
    ∃ k, decodeItem ⟨s "1-0:1.7.0", [⟨s "1.011", some (s "kW")⟩]⟩ = .ok (k, .int 1010) :=
  ⟨by decide +kernel, by decide +kernel, by decide +kernel,
   decode_kilo_unit _ _ _ gPower (Flt.ofRat false 1011 1000) 1010 (by decide +kernel) (by decide +kernel) (by decide +kernel)
     (by decide +kernel) (by decide +kernel)⟩

example : ∃ k, decodeItem ⟨s "1-0:1.8.0", [⟨s "00001605.055", some (s "kWh")⟩]⟩ = .ok (k, .int 1605055) :=
  decode_kilo_unit _ _ _ (some 1, some 0, 1, 8, some 0, none) (Flt.ofRat false 1605055 1000) 1605055
    (by decide +kernel) (by decide +kernel) (by decide +kernel) (by decide +kernel) (by decide +kernel)

/-- `kilo_unit_bound` : `k ≤ 3`, `m · 10^(3−k) < 2^50` — 1.011 (m = 1011, k = 3) and 230.1 (m = 2301, k = 1) -/
example : (3 ≤ 3) ∧ 1011 * 10 ^ (3 - 3) < 2 ^ 50 ∧
    (Flt.toInt (Flt.mul (Flt.ofRat false 1011 (10 ^ 3)) (Flt.ofNat 1000)) = .ok ((1011 * 10 ^ (3 - 3) : Nat) : Int) ∨
     Flt.toInt (Flt.mul (Flt.ofRat false 1011 (10 ^ 3)) (Flt.ofNat 1000)) = .ok (((1011 * 10 ^ (3 - 3) : Nat) : Int) - 1)) :=
  ⟨by decide, by decide, kilo_unit_bound 1011 3 (by decide) (by decide)⟩
example : Flt.toInt (Flt.mul (Flt.ofRat false 2301 (10 ^ 1)) (Flt.ofNat 1000)) = .ok 230100 := by
  rcases kilo_unit_bound 2301 1 (by decide) (by decide) with h | h
  · exact h
  · rw [h]; exact absurd h (by decide +kernel)

/-- the link that NO theorem of Props/C11*.lean states in general — `float("…")` of a decimal text with k
    fractional digits is `ofRat m 10^k` — checked here on instances only -/
example : Flt.ofStr (s "0006.000") = .ok (Flt.ofRat false 6000 (10 ^ 3)) ∧
    Flt.ofStr (s "00001605.055") = .ok (Flt.ofRat false 1605055 (10 ^ 3)) ∧
    Flt.ofStr (s "230.1") = .ok (Flt.ofRat false 2301 (10 ^ 1)) ∧
    Flt.ofStr (s "42") = .ok (Flt.ofRat false 42 (10 ^ 0)) := by
  decide +kernel

/-- `scaled_correct` : `v < 2^32`, `s ∈ {1,2,3}` -/
example : Flt.roundDigits (Flt.mul (Flt.ofInt (14571 : Nat)) (Flt.tenPowNeg 3)) 3 = Flt.ofRat false 14571 (10 ^ 3) ∧
    Flt.roundDigits (Flt.mul (Flt.ofInt (4294967295 : Nat)) (Flt.tenPowNeg 1)) 1 = Flt.ofRat false 4294967295 (10 ^ 1) :=
  ⟨scaled_correct 14571 3 (by decide) (by decide), scaled_correct 4294967295 1 (by decide) (by decide)⟩

/-! ### `decode_clock` : parsed address with C.D.E = 1.0.0 and a valid YYMMDDhhmmss -/

example : Obis.parse (s "0-0:1.0.0") = .ok (some 0, some 0, 1, 0, some 0, none) ∧
    Obis.cdeStr (some 0, some 0, 1, 0, some 0, none) = clockCde ∧
    ∃ k, decodeItem ⟨s "0-0:1.0.0", [⟨s "201020085222W", none⟩]⟩ =
      .ok (k, .dt { year := 2020, month := 10, day := 20, hour := 8, minute := 52, second := 22, micro := 0, tz := none }) :=
  ⟨by decide +kernel, by decide +kernel,
   decode_clock (s "0-0:1.0.0") (some 0, some 0, 1, 0, some 0, none) (by decide +kernel) (by decide +kernel) 20 10 20 8 52 22 (s "W") (by decide)⟩

/-! ### `readout_eq_content_plus_ident` : `decodeContent r.payload = .ok d`, `r.identLine = .ok m` -/

/-- a whole readout: `/LGF5E360`, the block above, `!` (no checksum) -/
def readout : P1.Readout :=
  let bytes := s "/LGF5E360\r\n" ++ render block ++ s "!\r\n"
  { bytes := bytes, endPos := bytes.length - 3, dataPos := 11 }

example : let d := dictOf (decodeContent readout.payload)
    decodeContent readout.payload = .ok d ∧
    readout.identLine = .ok ⟨s "LGF", some (s "E360")⟩ ∧
    decodeReadout readout = .ok ((d.set field_METER_MANUFACTURER_ID (.str (s "LGF"))).set field_METER_TYPE_ID (.str (s "E360"))) ∧
    d.length = 10 := by
  intro d
  obtain ⟨hd, hm, hl⟩ : decodeContent readout.payload = .ok d ∧
      readout.identLine = .ok ⟨s "LGF", some (s "E360")⟩ ∧ d.length = 10 := by decide +kernel
  -- elaborated before it meets the statement: the unifier would decide the `match` on the identification by
  -- unfolding `decodeReadout readout`
  have h := readout_eq_content_plus_ident readout d _ hd hm
  exact ⟨hd, hm, h, hl⟩

/-! ### `decode_guard_passes`, `decode_guard_rejects` -/

example : (∀ c ∈ render block, 32 ≤ c ∨ c = 13 ∨ c = 10) ∧
    decodeContent (render block) = decodeParsedContent (render block) :=
  ⟨by decide +kernel, decode_guard_passes _ (by decide +kernel)⟩

/-- a COSEM list (Kaifa list 1, `02 01 06 28 29 28 29`) given to the P1 content decoder: refused -/
example : (∃ c ∈ [2, 1, 6, 40, 41, 40, 41], c < 32 ∧ c ≠ 13 ∧ c ≠ 10) ∧
    decodeContent [2, 1, 6, 40, 41, 40, 41] = .error .valueError :=
  ⟨⟨2, by decide, by decide⟩, decode_guard_rejects _ ⟨2, by decide, by decide⟩⟩

end Amshan.C11.Witness
