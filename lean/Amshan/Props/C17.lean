import Amshan.Lemmas.ConnMgr
/-
  C17 — ConnectionManager: one connection at a time, and close() really stops it.
  Theorems are over EVERY reachable state of the transition system `ConnMgr.next` (every interleaving
  of task steps with close(), factory outcomes, losses and clock advances), for every configuration.
-/
namespace Amshan.C17
open Amshan.BackOff Amshan.ConnMgr

variable {md th sl : Nat}

/-- the manager never holds more than one live connection, and the live one is `_connection` -/
theorem at_most_one_live (s : S) (h : Reach md th sl s) :
    s.live.length ≤ 1 ∧ ∀ c ∈ s.live, s.conn = some c := by
  have hi := reach_inv h
  rcases hi.live1 with h0 | ⟨c, hl, hc⟩
  · simp [h0]
  · simp [hl, hc]

/-- a new attempt starts only after the previous connection has ended: when an attempt is logged no
    transport is live and `_connection` is None -/
theorem attempt_only_after_previous_ended (s s' : S) (l : Label) (h : Reach md th sl s)
    (hs : next s l = some s') (ha : (s.now, Ev.attempt) ∈ s'.log.drop s.log.length) :
    s.live = [] ∧ s.conn = none := by
  obtain ⟨_, _, _, hr⟩ := attempt_emitted hs ha
  obtain ⟨hc, hl, _⟩ := (reach_inv h).pending hr.running
  exact ⟨hl, hc⟩

/-- at most three tasks are pending (connect_loop, the connect task, one `closing.wait()` waiter)
    however many reconnect cycles occur -/
theorem tasks_bounded (s : S) (h : Reach md th sl s) : pendingTasks s ≤ 3 := by
  have hi := reach_inv h
  have hw : s.waiters ≤ 1 := by
    cases hl : s.lpc with
    | start | exited => exact Nat.le_trans (Nat.le_of_eq (hi.at_pc hl).1) (Nat.zero_le 1)
    | w1 | w2 => exact Nat.le_of_eq (hi.at_pc hl).1
  unfold pendingTasks
  split <;> split <;> omega

/-- after connect_loop has returned: no transport the manager obtained is still live (each was closed
    or lost), `_connection` is None, no waiter is left, and the connect task, if there ever was one, is
    finished or its cancellation is pending -/
theorem exited_clean (s : S) (h : Reach md th sl s) (he : s.lpc = .exited) :
    s.live = [] ∧ s.conn = none ∧ s.waiters = 0 ∧ (s.t = .none ∨ s.t = .finished ∨ s.cancelReq = true) := by
  have hi := reach_inv h
  have ⟨hw, ht, hc⟩ := hi.at_pc he
  exact ⟨hi.live_nil (fun c h => nomatch hc.symm.trans h), hc, hw, ht⟩

/-- no connection attempt is started while closing is requested, nor after connect_loop returned -/
theorem no_attempt_after_close (s s' : S) (l : Label) (h : Reach md th sl s)
    (hs : next s l = some s') (ha : (s.now, Ev.attempt) ∈ s'.log.drop s.log.length) :
    s.closing = false ∧ s.lpc ≠ .exited := by
  obtain ⟨_, hcr, hcl, hr⟩ := attempt_emitted hs ha
  exact (reach_inv h).active_of_ready hr hcr hcl

/-- after close(), connect_loop returns at its very next step — without waiting out a back-off sleep
    or a pending attempt (no clock advance, no factory result is needed) -/
theorem close_never_waits (s : S) (h : Reach md th sl s) (hc : s.closing = true) (hl : s.lpc ≠ .exited) :
    ∃ s', next s .lRun = some s' ∧ s'.lpc = .exited := by
  have _ := h
  exact exit_enabled hc hl

/-- connect_loop returns only when close() was called: the step on which it returns is taken with
    `closing` set (so neither a failed attempt nor a loss ends the loop) -/
theorem exits_only_when_closing (s s' : S) (l : Label) (h : Reach md th sl s)
    (hs : next s l = some s') (h1 : s.lpc ≠ .exited) (h2 : s'.lpc = .exited) : s.closing = true := by
  have _ := h
  have hst := next_step hs
  cases hcl : s.closing with
  | true => rfl
  | false =>
    by_cases hl : l = .close
    · subst hl
      cases hst <;> exact absurd h2 h1
    · exact absurd h2 (active_step hst hl ⟨hcl, h1⟩).2

/-- …and it never gets stuck: in every reachable state in which connect_loop has not returned, a task
    can run now, or the manager is waiting for a timer, for the connection factory, or for the loss
    of the live connection -/
theorem no_deadlock (s : S) (h : Reach md th sl s) (hl : s.lpc ≠ .exited) :
    (∃ s', next s .lRun = some s') ∨ (∃ s', next s .tRun = some s') ∨ (∃ u, s.t = .sleeping u) ∨
    s.t = .inFactory ∨ (s.lpc = .w2 ∧ ∃ c, s.conn = some c ∧ c ∈ s.live) :=
  (reach_inv h).not_stuck hl

/-- C18 on the event loop: a new connect task whose `_get_back_off_time()` is positive sets its timer
    to now plus exactly that time, and calls no factory on that step -/
theorem sleeps_backoff_time (s s' : S) (hs : next s .tRun = some s') (ht : s.t = .created)
    (hc : s.cancelReq = false) (hp : getBackOffTime s.backoff s.breaker > 0) :
    s'.t = .sleeping (s.now + getBackOffTime s.backoff s.breaker) ∧ s'.log = s.log := by
  cases Option.some.inj (hs.symm.trans (step_next (.sleep hc ht hp)))
  exact ⟨rfl, rfl⟩

/-- …and it does not call the factory before that time: a sleeping connect task logs an attempt only
    once the clock has reached its wake-up time -/
theorem attempt_not_before_wake (s s' : S) (u : Nat) (hs : next s .tRun = some s') (ht : s.t = .sleeping u)
    (ha : (s.now, Ev.attempt) ∈ s'.log.drop s.log.length) : u ≤ s.now := by
  obtain ⟨_, _, _, ⟨h1, _⟩ | ⟨u', h1, hu⟩⟩ := attempt_emitted hs ha
  · exact nomatch ht.symm.trans h1
  · cases ht.symm.trans h1
    exact hu

/-- the manager calls `reset()` on the strategy object when the factory returns and `failure()` when
    it raises (ties the manager to C18) -/
theorem backoff_follows_outcomes (s s' : S) :
    (next s .factoryOk = some s' → s'.backoff = s.backoff.reset) ∧
    (next s .factoryFail = some s' → s'.backoff = s.backoff.failure) :=
  ⟨fun h => by cases next_step h; rfl, fun h => by cases next_step h; rfl⟩

/-- non-vacuity: a reachable state with a live connection, and a reachable exited state -/
example : ∃ s, Reach 60 5 5 s ∧ s.live = [0] :=
  reach_of_run [.lRun, .tRun, .factoryOk] (by decide)

example : ∃ s, Reach 60 5 5 s ∧ s.lpc = .exited :=
  reach_of_run [.close, .lRun] (by decide)

end Amshan.C17
