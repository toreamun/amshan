import Amshan.Props.C01Witness
import Amshan.Props.C01Detect
/-
  C01Detect — non-vacuity: `one_octet_damage_not_valid` instantiated on the real 39-octet frame of
  C01Witness (`good`) and its copy with octet 35 changed (`flipped`).  Only `example`s.
-/
namespace Amshan.C01.Witness
open Amshan.Gen Amshan.Hdlc Amshan.HdlcSpec

/-- where the damaged octet sits in the real frame -/
def good_split : good.data = (octets.take 35) ++ (octets.getD 35 0) :: (octets.drop 36) := by decide +kernel

/-- every hypothesis of the theorem holds for (good, flipped); the conclusion is what `decide` computes -/
example : flipped.isValid = false :=
  one_octet_damage_not_valid good flipped good_inv flipped_inv
    (octets.take 35) (octets.drop 36) (octets.getD 35 0) 0x14
    good_split (by decide +kernel) (by decide +kernel) good_valid

/-- and the octet-string form -/
example : ¬ Intact ((octets.take 35) ++ 0x14 :: (octets.drop 36)) :=
  intact_one_octet_damage (octets.take 35) (octets.drop 36) (octets.getD 35 0) 0x14
    (by decide +kernel) (by decide +kernel) (by decide +kernel) (by decide +kernel) (by decide +kernel)
    (good_split ▸ (valid_iff_intact good good_inv).1 good_valid)

/-- the two-octet form on the same frame: octets 35 and 36 replaced -/
example : ¬ Intact ((octets.take 35) ++ 0x14 :: 0x77 :: (octets.drop 37)) :=
  intact_two_adjacent_octets_damage (octets.take 35) (octets.drop 37) (octets.getD 35 0) (octets.getD 36 0)
    0x14 0x77
    (by decide +kernel) (by decide +kernel) (by decide +kernel) (by decide +kernel) (by decide +kernel)
    (by decide +kernel) (by decide +kernel)
    (by
      have h := (valid_iff_intact good good_inv).1 good_valid
      have e : good.data = (octets.take 35) ++ (octets.getD 35 0) :: (octets.getD 36 0) :: (octets.drop 37) := by
        decide +kernel
      rwa [e] at h)

end Amshan.C01.Witness
