import Amshan.Lemmas.P1ParseRT
/-
  C11 — P1 readouts parse into the transmitted data sets and decode with exact units.
-/
namespace Amshan.C11
open Amshan.Gen Amshan.Cosem Amshan.P1Parse Amshan.P1BlockSpec

/-- pin: the strings `_decode_parsed` compares units and the clock code with, as the model reads them
    (`unitsPlain` = the first four, `unitsKilo` = the next four, `clockCde` = the ninth); the order inside a group
    does not matter (the source may keep a group in a set).  The integer literals of `_decode_parsed` and
    `_parse_p1_datetime` are not pinned as theorems: they are change detectors of the harness
    (harness/fingerprints.json), a change widens the correspondence search. -/
theorem literal_pins : (p1DecodeStrings.take 4).Perm ["v", "a", "var", "varh"] ∧
    ((p1DecodeStrings.drop 4).take 4).Perm ["kw", "kwh", "kvar", "kvarh"] ∧ p1DecodeStrings.drop 8 = ["1.0.0"] := by
  decide

def expectedSets (b : List LineDesc) : List DataSet :=
  (b.flatMap (·.sets)).map fun d => ⟨d.address, d.values.map fun v => ⟨v.value, v.unit⟩⟩

/-- **C11 (parsing).** For every well-formed data block — several data sets per line, 1..n values per
    data set, with or without units, blank lines, LF or CR LF line ends — parsing returns one data set
    per transmitted address with all its values and units in order. -/
theorem parse_block (b : List LineDesc) (h : ∀ l ∈ b, l.WF) :
    ∃ iters, parseContent (render b) = .ok (expectedSets b, iters) :=
  P1ParseRT.parseContent_render b h

/-- parsing never runs out of the model's fuel (the loops of the repaired source terminate) -/
theorem parse_terminates (data : List Nat) : parseContent data ≠ .error .overflowError :=
  P1ParseRT.parseContent_ne_overflow data

/-- and the number of loop iterations is linear in the input -/
theorem parse_cost (data : List Nat) (items : List DataSet) (iters : Nat)
    (h : parseContent data = .ok (items, iters)) : iters ≤ 2 * data.length + 2 := by
  have := P1ParseRT.parseContent_cost data items iters h
  omega

/-- **C11 (decoding names).** A single-valued data set is stored under the common field name of its
    OBIS address's C.D.E groups (or the C.D.E text when unknown). -/
theorem decode_name (item : DataSet) (k : String) (v : Val) (g : Obis.Groups)
    (hg : Obis.parse item.address = .ok g) (h : decodeItem item = .ok (k, v)) :
    k = (match obisNameMap.lookup (Py.toString (Obis.cdeStr g)) with
         | some n => n | none => Py.toString (Obis.cdeStr g)) := by
  have := P1ParseRT.decodeItem_name item k v g hg h
  unfold P1ParseRT.itemName at this
  -- with the name table closed off, the two `match`es (different auxiliary matchers) are compared at once
  generalize List.lookup (Py.toString (Obis.cdeStr g)) obisNameMap = name at this ⊢
  exact this

/-- **C11 (verbatim values).** Without a unit and not the clock, the value text is kept. -/
theorem decode_verbatim (addr value : List Nat) (g : Obis.Groups) (hg : Obis.parse addr = .ok g)
    (hc : Obis.cdeStr g ≠ clockCde) :
    ∃ k, decodeItem ⟨addr, [⟨value, none⟩]⟩ = .ok (k, .str value) :=
  ⟨_, P1ParseRT.decodeItem_verbatim addr value g hg hc⟩

/-- **C11 (V, A, var, varh).** `float(value)`, in any letter case of the unit. -/
theorem decode_plain_unit (addr value unit : List Nat) (g : Obis.Groups) (f : Flt.F)
    (hg : Obis.parse addr = .ok g) (hu : unitsPlain.contains (Py.lower unit) = true) (hne : unit ≠ [])
    (hf : Flt.ofStr value = .ok f) :
    ∃ k, decodeItem ⟨addr, [⟨value, some unit⟩]⟩ = .ok (k, .flt f) :=
  ⟨_, P1ParseRT.decodeItem_plain addr value unit g f hg hu hne hf⟩

/-- **C11 (kW, kWh, kvar, kvarh).** `int(float(value) * 1000)`. -/
theorem decode_kilo_unit (addr value unit : List Nat) (g : Obis.Groups) (f : Flt.F) (z : Int)
    (hg : Obis.parse addr = .ok g) (hu : unitsKilo.contains (Py.lower unit) = true) (hne : unit ≠ [])
    (hf : Flt.ofStr value = .ok f) (hz : Flt.toInt (Flt.mul f (Flt.ofNat 1000)) = .ok z) :
    ∃ k, decodeItem ⟨addr, [⟨value, some unit⟩]⟩ = .ok (k, .int z) :=
  ⟨_, P1ParseRT.decodeItem_kilo addr value unit g f z hg hu hne hf hz⟩

/-- **C11 (clock).** `YYMMDDhhmmss…` under 1.0.0 is the transmitted local date-time. -/
theorem decode_clock (addr : List Nat) (g : Obis.Groups) (hg : Obis.parse addr = .ok g)
    (hc : Obis.cdeStr g = clockCde) (yy mo d h mi s : Nat) (suffix : List Nat)
    (hv : yy ≤ 99 ∧ 1 ≤ mo ∧ mo ≤ 12 ∧ 1 ≤ d ∧ d ≤ daysInMonth (2000 + yy) mo ∧ h ≤ 23 ∧ mi ≤ 59 ∧ s ≤ 59) :
    let two (n : Nat) : List Nat := [48 + n / 10, 48 + n % 10]
    ∃ k, decodeItem ⟨addr, [⟨two yy ++ two mo ++ two d ++ two h ++ two mi ++ two s ++ suffix, none⟩]⟩ =
      .ok (k, .dt { year := 2000 + yy, month := mo, day := d, hour := h, minute := mi, second := s, micro := 0, tz := none }) :=
  ⟨_, P1ParseRT.decodeItem_clock addr _ g _ hg hc (P1ParseRT.parseP1Datetime_two yy mo d h mi s suffix hv)⟩

/-- **C11 (same through all paths).** `decode_p1_readout` = `decode_p1_readout_content` of the payload
    plus the two identification fields. -/
theorem readout_eq_content_plus_ident (r : P1.Readout) (d : Dict) (m : P1.IdentMatch)
    (hd : decodeContent r.payload = .ok d) (hm : r.identLine = .ok m) :
    decodeReadout r = .ok (match m.ident with
      | some i => (d.set field_METER_MANUFACTURER_ID (.str m.manid)).set field_METER_TYPE_ID (.str i)
      | none => d.set field_METER_MANUFACTURER_ID (.str m.manid)) := by
  unfold decodeContent at hd
  unfold decodeReadout
  split at hd
  · cases hd
  · unfold decodeParsedContent at hd
    split at hd
    · cases hd
    · split at hd
      · cases hd
      · simp only [hd, hm]
        cases m.ident <;> rfl

/-- **C11 (the content decoder's guard).** `decode_p1_readout_content` first refuses content with an
    octet below 0x20 other than CR and LF.  A well-formed data block has none (its characters are
    printable, CR, LF), so the guard passes: the transmitted data sets are decoded, and a block without
    data sets is refused. -/
theorem decode_block (b : List LineDesc) (h : ∀ l ∈ b, l.WF) :
    decodeContent (render b) =
      if (expectedSets b).isEmpty then .error .valueError else decodeParsed (expectedSets b) :=
  P1ParseRT.decodeContent_render b h

/-- content of printable characters, CR and LF (or octets ≥ 0x80): the guard passes -/
theorem decode_guard_passes (content : List Nat) (h : ∀ c ∈ content, 32 ≤ c ∨ c = 13 ∨ c = 10) :
    decodeContent content = decodeParsedContent content :=
  P1ParseRT.decodeContent_of_no_control content h

/-- any other control octet: ValueError, whatever the parser would have made of the content -/
theorem decode_guard_rejects (content : List Nat) (h : ∃ c ∈ content, c < 32 ∧ c ≠ 13 ∧ c ≠ 10) :
    decodeContent content = .error .valueError :=
  P1ParseRT.decodeContent_control content h

/-- the iteration count is in fact at most the input length -/
theorem parse_cost_tight (data : List Nat) (items : List DataSet) (iters : Nat)
    (h : parseContent data = .ok (items, iters)) : iters ≤ data.length :=
  P1ParseRT.parseContent_cost data items iters h

end Amshan.C11
