import Amshan.Props.C12
import Amshan.Props.C12Own
import Amshan.Props.C12OwnBody
import Amshan.Props.C07Witness
import Amshan.Props.C08Witness
import Amshan.Props.C08Final
import Amshan.Props.C09Witness
import Amshan.Props.C09Final
/-
  C12 — non-vacuity witnesses with the CONCRETE decoder table (`Dec.decoders`, order pinned in Props/C12) and
  the REAL messages of the test files (data of Props/C07Witness, C08Witness, C09Witness): the Aidon list 3,
  Kaifa lists 1, 2, 3 and the Swedish OBIS-tagged list, the Kamstrup hourly list, each as a frame (with its real
  LLC/APDU header) and as a bare notification body; a P1 data block; the junk payload 01 02 03 04 05 of
  tests/test_autodecoder.py.
  Realistic non-trivial fact used below (the property text mentions it): the Kamstrup grammar ACCEPTS Kaifa
  frames and bodies with a partial result, so "the most recently successful decoder whenever that one accepts
  it" is exercised with a foreign message.
-/
namespace Amshan.C12.Witness
set_option linter.defProp false
open Amshan.Gen Amshan.Cosem Amshan.Dec Amshan.ListSpec Amshan.Auto Amshan.DecOwnBody

def s (x : String) : List Nat := x.toList.map Char.toNat

def aidonFrame : List Nat := encHeader C07.Witness.hdr ++ encAidonBody C07.Witness.list3
def kaifaFrame1 : List Nat := encHeader C08.Witness.hdr2 ++ encKaifaValues C08.Witness.list1
def kaifaFrame3 : List Nat := encHeader C08.Witness.hdr3 ++ encKaifaValues C08.Witness.list3
def kamFrame : List Nat := encHeader C09.Witness.hdr ++ encKamList C09.Witness.real
def junk : List Nat := [1, 2, 3, 4, 5]
def p1Block : List Nat := s "0-0:1.0.0(201020085222W)\r\n1-0:1.7.0(0006.000*kW)\r\n1-0:32.7.0(234.4*V)\r\n"

/-- result dictionary / remembered index of a step -/
def dictOf (r : Except PyExc (Option Nat × Option Dict)) : Dict :=
  match r with | .ok (_, some d) => d | _ => []
def okDict (r : Except PyExc Dict) : Dict := match r with | .ok d => d | .error _ => []

def hcaught : ∀ e, caught e = true := fun e => (all_caught e).1

/-! ### Props/C12.lean (generic theorems, instantiated with the real table) -/

/-- `step_total` : hypothesis "the except clause catches everything" -/
example : (∀ e, caught e = true) ∧ ∃ r, step decoders caught (some 3) junk = .ok r :=
  ⟨hcaught, step_total decoders caught hcaught (some 3) junk⟩

/-- `none_iff_all_reject`, both directions: all seven decoders reject the junk payload, so the result is
    None (whatever is remembered) … -/
example : (∀ d ∈ decoders, accepts d junk = false) ∧ ∃ prev', step decoders caught (some 5) junk = .ok (prev', none) := by
  have h : ∀ d ∈ decoders, accepts d junk = false := by decide +kernel
  exact ⟨h, (none_iff_all_reject decoders caught hcaught (some 5) junk).2 h⟩

/-- … and a payload that gives None is rejected by each decoder, e.g. a Kaifa frame cut after 20 octets -/
example : step decoders caught none (kaifaFrame1.take 20) = .ok (none, none) ∧
    ∀ d ∈ decoders, accepts d (kaifaFrame1.take 20) = false := by
  have h : step decoders caught none (kaifaFrame1.take 20) = .ok (none, none) := by decide +kernel
  exact ⟨h, (none_iff_all_reject decoders caught hcaught none _).1 ⟨_, h⟩⟩

/-- `result_from_accepting`, `first_in_cyclic_order` : hypothesis `step … = .ok (idx, some v)`.
    Remembered: Kamstrup_notification_body (6); payload: the real Kaifa list-3 frame.  The search wraps around
    (6, 0, 1): Aidon_frame rejects, Kaifa_frame accepts. -/
example : let v := dictOf (stepPayload (some 6) kaifaFrame3)
    step decoders caught (some 6) kaifaFrame3 = .ok (some 1, some v) ∧ v.length = 19 ∧
    (∃ i d, some 1 = some i ∧ decoders[i]? = some d ∧ d kaifaFrame3 = .ok v) ∧
    (∃ j, j < decoders.length ∧ 1 = (j + (some 6).getD 0) % decoders.length ∧
      ∀ j', j' < j → ∀ d, decoders[(j' + (some 6).getD 0) % decoders.length]? = some d → accepts d kaifaFrame3 = false) := by
  intro v
  -- one evaluation for both facts: the kernel keeps what it has computed only within one check
  obtain ⟨h, hl⟩ : step decoders caught (some 6) kaifaFrame3 = .ok (some 1, some v) ∧ v.length = 19 := by
    decide +kernel
  exact ⟨h, hl, result_from_accepting decoders caught (some 6) kaifaFrame3 (some 1) v h,
    first_in_cyclic_order decoders caught hcaught (some 6) kaifaFrame3 1 v h⟩

/-- `prefers_previous` : hypotheses `decs[i]? = some d`, `d p = .ok v`.  Remembered: Kamstrup_frame (2); payload:
    the real KAIFA list-3 frame, which the Kamstrup grammar accepts with a two-entry dictionary — so the
    Kamstrup result is returned although Kaifa_frame (1) would give all 19 fields. -/
example : let d : Decoder (List Nat) Dict := fun p => ofOut (Kamstrup.decodeFrame p)
    let v := okDict (d kaifaFrame3)
    decoders[2]? = some d ∧ d kaifaFrame3 = .ok v ∧ v.length = 2 ∧
    step decoders caught (some 2) kaifaFrame3 = .ok (some 2, some v) := by
  intro d v
  have hi : decoders[2]? = some d := by rw [DecTotal.decoders_eq]; rfl
  obtain ⟨hv, hl⟩ : d kaifaFrame3 = .ok v ∧ v.length = 2 := by decide +kernel
  exact ⟨hi, hv, hl, prefers_previous decoders caught 2 d kaifaFrame3 v hi hv⟩

/-- `previous_unchanged_on_none` : hypothesis `step … = .ok (prev', none)` -/
example : step decoders caught (some 4) junk = .ok (some 4, none) := by
  obtain ⟨prev', h⟩ := (none_iff_all_reject decoders caught hcaught (some 4) junk).2 (by decide +kernel)
  rw [previous_unchanged_on_none decoders caught (some 4) prev' junk h] at h
  exact h

/-- the history Aidon frame, junk, Kaifa frame, junk, Kamstrup frame, run once for the next two examples -/
def history_eval :
    (runHistory decoders caught none [aidonFrame]).toOption.map (·.1) = some (some 0) ∧
    (runHistory decoders caught none [aidonFrame, junk]).toOption.map (·.1) = some (some 0) ∧
    (runHistory decoders caught none [aidonFrame, junk, kaifaFrame1]).toOption.map (·.1) = some (some 1) ∧
    (runHistory decoders caught none [aidonFrame, junk, kaifaFrame1, junk, kamFrame]).toOption.map (·.1) = some (some 2) ∧
    previousName decoderOrder (some 2) = some "Kamstrup_frame" := by
  decide +kernel

/-- `previous_names_last_success` : hypothesis `runHistory … (ps ++ [p]) = .ok (prev', rs)`.
    History: Aidon frame, junk, Kaifa frame, junk; then a Kamstrup frame. -/
example : let ps := [aidonFrame, junk, kaifaFrame1, junk]
    ∃ prev' rs, runHistory decoders caught none (ps ++ [kamFrame]) = .ok (prev', rs) ∧
      ∃ prevMid rsInit rLast, runHistory decoders caught none ps = .ok (prevMid, rsInit) ∧
        step decoders caught prevMid kamFrame = .ok (prev', rLast) ∧ rs = rsInit ++ [rLast] ∧
        (rLast = none → prev' = prevMid) ∧
        (∀ v, rLast = some v → ∃ i d, prev' = some i ∧ decoders[i]? = some d ∧ d kamFrame = .ok v) := by
  intro ps
  cases h : runHistory decoders caught none (ps ++ [kamFrame]) with
  | error e =>
    have := history_eval.2.2.2.1
    rw [show [aidonFrame, junk, kaifaFrame1, junk, kamFrame] = ps ++ [kamFrame] from rfl, h] at this
    cases this
  | ok x => exact ⟨x.1, x.2, rfl, previous_names_last_success decoders caught none ps kamFrame x.1 x.2 h⟩

/-- the remembered decoder along that history: Aidon_frame, unchanged, Kaifa_frame, unchanged, Kamstrup_frame -/
example : (runHistory decoders caught none [aidonFrame]).toOption.map (·.1) = some (some 0) ∧
    (runHistory decoders caught none [aidonFrame, junk]).toOption.map (·.1) = some (some 0) ∧
    (runHistory decoders caught none [aidonFrame, junk, kaifaFrame1]).toOption.map (·.1) = some (some 1) ∧
    (runHistory decoders caught none [aidonFrame, junk, kaifaFrame1, junk, kamFrame]).toOption.map (·.1) = some (some 2) ∧
    previousName decoderOrder (some 2) = some "Kamstrup_frame" :=
  history_eval

/-! ### Props/C12Own.lean -/

/-- `own_decoder_same_history` : hypotheses `decoders[i]? = some d`, `d p = .ok v` — Kaifa_frame remembered (a
    history of Kaifa frames), next genuine Kaifa frame: decoded by Kaifa_frame with the dictionary of C08 -/
example : let d : Decoder (List Nat) Dict := fun p => ofOut (Kaifa.decodeFrame p)
    let v := kaifaValuesExpected (some (expectedDT C08.Witness.clk3)) C08.Witness.list3
    decoders[1]? = some d ∧ d kaifaFrame3 = .ok v ∧ stepPayload (some 1) kaifaFrame3 = .ok (some 1, some v) := by
  intro d v
  have hi : decoders[1]? = some d := by rw [DecTotal.decoders_eq]; rfl
  have hv : d kaifaFrame3 = .ok v := by
    have h := C08.kaifa_values_frame_final C08.Witness.hdr3 (by decide) (by decide) C08.Witness.list3 C08.Witness.wf3 []
    rw [List.append_nil] at h
    show ofOut (Kaifa.decodeFrame kaifaFrame3) = _
    unfold kaifaFrame3
    rw [h]; rfl
  exact ⟨hi, hv, own_decoder_same_history 1 d kaifaFrame3 v hi hv⟩

/-- `own_aidon_frame_fresh` : `hd.WF`, `∀ e ∈ es, e.WF`, `es.length ≤ 255` — the real Aidon list-3 frame -/
example : stepPayload none aidonFrame = .ok (some 0, some (aidonExpected C07.Witness.list3)) :=
  own_aidon_frame_fresh C07.Witness.hdr (by decide) C07.Witness.list3 C07.Witness.wf3 (by decide)

/-- `aidon_rejects_structure_body` : `hd.WF` -/
example : ∃ e, (decoders[0]?.map (fun d => d (encHeader C08.Witness.hdr3 ++ [2] ++ [0x12, 9, 7]))) = some (.error e) :=
  aidon_rejects_structure_body C08.Witness.hdr3 (by decide) _

/-- `own_kaifa_frame_fresh` : `hd.WF`, `hd.clock ≠ .null`, `Kaifa.decodeFrame … = .dict d` — real lists 1 and 3 -/
example : stepPayload none kaifaFrame3 =
      .ok (some 1, some (kaifaValuesExpected (some (expectedDT C08.Witness.clk3)) C08.Witness.list3)) ∧
    stepPayload none kaifaFrame1 =
      .ok (some 1, some (kaifaValuesExpected (some (expectedDT C08.Witness.clkH2)) C08.Witness.list1)) := by
  constructor
  · have h := C08.kaifa_values_frame_final C08.Witness.hdr3 (by decide) (by decide) C08.Witness.list3 C08.Witness.wf3 []
    rw [List.append_nil] at h
    exact own_kaifa_frame_fresh C08.Witness.hdr3 (by decide) (by decide) C08.Witness.list3 _ h
  · have h := C08.kaifa_values_frame_final C08.Witness.hdr2 (by decide) (by decide) C08.Witness.list1 C08.Witness.wf1 []
    rw [List.append_nil] at h
    exact own_kaifa_frame_fresh C08.Witness.hdr2 (by decide) (by decide) C08.Witness.list1 _ h

/-- `own_kamstrup_frame_fresh` : `hd.WF`, `l.WF`, `2 ≤ lenOctet`, `versionPad = 0`, first OBIS code has an octet
    ≥ 0x80, `Kamstrup.decodeFrame … = .dict d` — the real hourly list (length octet 0x23, 1.1.0.0.5.255 first) -/
example : C09.Witness.real.WF ∧ 2 ≤ C09.Witness.real.lenOctet ∧ C09.Witness.real.versionPad = 0 ∧
    (∃ e rest, C09.Witness.real.elems = e :: rest ∧ ∃ b ∈ e.obis, 128 ≤ b) ∧
    stepPayload none kamFrame = .ok (some 2, some ((kamExpected C09.Witness.real).set "meter_datetime"
      (.dt (expectedDT C09.Witness.clkH)))) := by
  have hf : ∃ e rest, C09.Witness.real.elems = e :: rest ∧ ∃ b ∈ e.obis, 128 ≤ b :=
    ⟨_, _, rfl, 255, by decide, by decide⟩
  exact ⟨C09.Witness.wfReal, by decide, rfl, hf,
    own_kamstrup_frame_fresh C09.Witness.hdr (by decide) C09.Witness.real C09.Witness.wfReal (by decide) rfl hf _
      (C09.kamstrup_frame_final C09.Witness.hdr (by decide) (by decide) C09.Witness.real C09.Witness.wfReal)⟩

/-- `own_p1_fresh` : printable / CR / LF block that the P1 decoder accepts -/
example : (∀ c ∈ p1Block, (32 ≤ c ∧ c ≤ 126) ∨ c = 13 ∨ c = 10) ∧
    let d := okDict (P1Parse.decodeContent p1Block)
    P1Parse.decodeContent p1Block = .ok d ∧ d.length = 3 ∧ stepPayload none p1Block = .ok (some 3, some d) := by
  let d := okDict (P1Parse.decodeContent p1Block)
  obtain ⟨hb, hd, hl⟩ : (∀ c ∈ p1Block, (32 ≤ c ∧ c ≤ 126) ∨ c = 13 ∨ c = 10) ∧
      P1Parse.decodeContent p1Block = .ok d ∧ d.length = 3 := by decide +kernel
  exact ⟨hb, hd, hl, own_p1_fresh p1Block hb d hd⟩

/-- `message_eq_payload_hdlc` : `f.payload = some p`, `p ≠ []` — the real HDLC frame of tests/test_hdlc.py that
    carries Kaifa list 1 (A0 27 01 02 01 10 5A 87 | E6 E7 00 0F 40000000 09 0C … 02 01 06 0000157E | EA 5E) -/
def hdlcFrame : Hdlc.Frame :=
  { data := [0xA0, 0x27, 0x01, 0x02, 0x01, 0x10, 0x5A, 0x87, 0xE6, 0xE7, 0x00, 0x0F, 0x40, 0x00, 0x00, 0x00, 0x09, 0x0C,
             0x07, 0xE4, 0x02, 0x0F, 0x06, 0x01, 0x19, 0x22, 0xFF, 0x80, 0x00, 0x00, 0x02, 0x01, 0x06, 0x00, 0x00, 0x15,
             0x7E, 0xEA, 0x5E],
    crc := fcsGood, ctlPos := some 5 }

example : let p := hdlcFrame.data.drop 8 |>.take 29
    hdlcFrame.payload = some p ∧ p ≠ [] ∧
    stepMessage none (.hdlc hdlcFrame) = stepPayload none p ∧
    (stepPayload none p).toOption.map (·.1) = some (some 1) ∧
    (dictOf (stepPayload none p)).lookup "active_power_import" = some (.int 0x157E) := by
  intro p
  obtain ⟨hp, hne, hi, hv⟩ : hdlcFrame.payload = some p ∧ p ≠ [] ∧
      (stepPayload none p).toOption.map (·.1) = some (some 1) ∧
      (dictOf (stepPayload none p)).lookup "active_power_import" = some (.int 0x157E) := by decide +kernel
  exact ⟨hp, hne, message_eq_payload_hdlc none hdlcFrame p hp hne, hi, hv⟩

/-- `message_eq_payload_dlms` : `p ≠ []`;  `message_empty_payload` : payload None (header-only HDLC frame
    A0 08 01 02 01 10 37 8D) or empty -/
example : stepMessage (some 2) (.dlms kamFrame) = stepPayload (some 2) kamFrame :=
  message_eq_payload_dlms (some 2) kamFrame (by decide +kernel)

example : let f : Hdlc.Frame := ⟨[0xA0, 0x08, 0x01, 0x02, 0x01, 0x10, 0x37, 0x8D], fcsGood, some 5⟩
    (Message.hdlc f).payload = none ∧ stepMessage (some 1) (.hdlc f) = .ok (some 1, none) ∧
    stepMessage (some 1) (.dlms []) = .ok (some 1, none) := by
  intro f
  have h : (Message.hdlc f).payload = none := by decide +kernel
  exact ⟨h, message_empty_payload (some 1) _ (Or.inl h), message_empty_payload (some 1) _ (Or.inr rfl)⟩

/-! ### Props/C12OwnBody.lean — bare notification bodies on a fresh AutoDecoder -/

def aidonBody : List Nat := encAidonBody C07.Witness.list3
def kaifaBody3 : List Nat := encKaifaValues C08.Witness.list3
def kaifaObisBody : List Nat := encKaifaObis C08.Witness.seList
def kamBody : List Nat := encKamList C09.Witness.real

/-- `frame_decoders_reject` : `noApduStart p` — holds for all four real bodies -/
example : noApduStart aidonBody = true ∧ noApduStart kaifaBody3 = true ∧ noApduStart kaifaObisBody = true ∧
    noApduStart kamBody = true ∧
    ∀ j, j < 3 → ∀ d, decoders[j]? = some d → ∃ e, d kamBody = .error e ∧ caught e = true :=
  ⟨by decide +kernel, by decide +kernel, by decide +kernel, by decide +kernel,
   frame_decoders_reject kamBody (by decide +kernel)⟩

/-- `p1_decoder_rejects` : `p1Safe p` (an octet ≥ 0x80 …) — the real Kamstrup body has F = 255 octets;
    `p1_decoder_rejects_control` : a control octet — every COSEM body; `p1_decoder_rejects_tag` : `t = 1 ∨ t = 2` -/
example : p1Safe kamBody = true ∧ (∃ c ∈ kamBody, c < 32 ∧ c ≠ 13 ∧ c ≠ 10) ∧
    (∀ d, decoders[3]? = some d → ∃ e, d kamBody = .error e ∧ caught e = true) ∧
    (∀ d, decoders[3]? = some d → ∃ e, d (2 :: kamBody.tail) = .error e ∧ caught e = true) :=
  ⟨by decide +kernel, ⟨2, by decide +kernel, by decide⟩, p1_decoder_rejects kamBody (by decide +kernel),
   p1_decoder_rejects_tag 2 kamBody.tail (Or.inr rfl)⟩
example : ∀ d, decoders[3]? = some d → ∃ e, d aidonBody = .error e ∧ caught e = true :=
  p1_decoder_rejects_control aidonBody ⟨1, by decide +kernel, by decide⟩

/-- `fresh_k` (and `fresh_k_generic`) : decoder k accepts, decoders 0 … k−1 raise caught exceptions — k = 6 for
    the real Kamstrup body -/
example : let d : Decoder (List Nat) Dict := fun p => ofOut (Kamstrup.decodeBody p)
    decoders[6]? = some d ∧ d kamBody = .ok (kamExpected C09.Witness.real) ∧
    (∀ j, j < 6 → ∀ d', decoders[j]? = some d' → ∃ e, d' kamBody = .error e ∧ caught e = true) ∧
    stepPayload none kamBody = .ok (some 6, some (kamExpected C09.Witness.real)) := by
  intro d
  have hk : decoders[6]? = some d := by rw [DecTotal.decoders_eq]; rfl
  have hv : d kamBody = .ok (kamExpected C09.Witness.real) := by
    show ofOut (Kamstrup.decodeBody kamBody) = _
    unfold kamBody
    rw [C09.kamstrup_body_final C09.Witness.real C09.Witness.wfReal]; rfl
  have hrej : ∀ j, j < 6 → ∀ d', decoders[j]? = some d' → ∃ e, d' kamBody = .error e ∧ caught e = true := by
    intro j hj d' hd'
    have hlt : j < decoders.length := (List.getElem?_eq_some_iff.1 hd').1
    have hd'' : d' = decoders[j] := (List.getElem?_eq_some_iff.1 hd').2.symm
    subst hd''
    have hall : ∀ j (h : j < decoders.length), j < 6 →
        (match decoders[j] kamBody with | .error e => caught e | .ok _ => false) = true := by decide +kernel
    have := hall j hlt hj
    cases hr : decoders[j] kamBody with
    | ok _ => rw [hr] at this; cases this
    | error e => rw [hr] at this; exact ⟨e, rfl, this⟩
  exact ⟨hk, hv, hrej, fresh_k kamBody 6 d _ hk hv hrej⟩

example : Auto.step decoders caught none kaifaBody3 = .ok (some 5, some (kaifaValuesExpected none C08.Witness.list3)) := by
  have h : stepPayload none kaifaBody3 = .ok (some 5, some (kaifaValuesExpected none C08.Witness.list3)) :=
    own_kaifa_body_fresh_wf C08.scaledCorrect C08.Witness.list3 C08.Witness.wf3
  exact h

/-- `own_aidon_payload_fresh`, `own_aidon_body_fresh` : `noApduStart`, decoder 4 accepts / list well formed -/
example : stepPayload none aidonBody = .ok (some 4, some (aidonExpected C07.Witness.list3)) ∧
    Aidon.decodeBody aidonBody = .dict (aidonExpected C07.Witness.list3) := by
  have hdec : Aidon.decodeBody aidonBody = .dict (aidonExpected C07.Witness.list3) := by
    have := C07.aidon_roundtrip_body C07.Witness.list3 C07.Witness.wf3 (by decide) []
    rwa [List.append_nil] at this
  exact ⟨own_aidon_body_fresh C07.Witness.list3 C07.Witness.wf3 (by decide) (by decide +kernel), hdec⟩
example : stepPayload none aidonBody = .ok (some 4, some (aidonExpected C07.Witness.list3)) := by
  refine own_aidon_payload_fresh aidonBody (by decide +kernel) _ ?_
  have := C07.aidon_roundtrip_body C07.Witness.list3 C07.Witness.wf3 (by decide) []
  rwa [List.append_nil] at this

/-- `own_aidon_body_fresh_obis` : first OBIS code 1.1.0.2.129.255 of the real list: F ≥ 128, C = 0 with E ≠ 0 -/
example : stepPayload none aidonBody = .ok (some 4, some (aidonExpected C07.Witness.list3)) :=
  own_aidon_body_fresh_obis _ _ C07.Witness.wf3 (by decide) 1 1 0 2 129 255 rfl (by decide) (by decide) (by decide)

/-- `own_kaifa_payload_fresh`, `own_kaifa_body_fresh`, `own_kaifa_body_fresh_wf`, `own_kaifa_list1_fresh` -/
example : stepPayload none kaifaBody3 = .ok (some 5, some (kaifaValuesExpected none C08.Witness.list3)) ∧
    stepPayload none (encKaifaValues [.u32 0x16DC]) = .ok (some 5, some (kaifaValuesExpected none [.u32 0x16DC])) :=
  ⟨own_kaifa_body_fresh_wf C08.scaledCorrect _ C08.Witness.wf3,
   own_kaifa_list1_fresh C08.scaledCorrect 0x16DC (by decide)⟩
example : stepPayload none kaifaBody3 = .ok (some 5, some (kaifaValuesExpected none C08.Witness.list3)) := by
  have hdec := C08.kaifa_values_body_final C08.Witness.list3 C08.Witness.wf3 []
  rw [List.append_nil] at hdec
  exact own_kaifa_body_fresh C08.Witness.list3 (by decide +kernel) _ hdec
example : ∃ rest, kaifaBody3 = 2 :: rest ∧
    stepPayload none (2 :: rest) = .ok (some 5, some (kaifaValuesExpected none C08.Witness.list3)) := by
  have hdec := C08.kaifa_values_body_final C08.Witness.list3 C08.Witness.wf3 []
  rw [List.append_nil] at hdec
  exact ⟨kaifaBody3.tail, by decide +kernel, own_kaifa_payload_fresh kaifaBody3.tail (by decide +kernel) _ hdec⟩

/-- `own_kaifa_obis_body_fresh(_wf)` : the real Swedish list -/
example : stepPayload none kaifaObisBody = .ok (some 5, some (kaifaObisExpected C08.Witness.seList)) :=
  own_kaifa_obis_body_fresh_wf C08.scaledCorrect _ C08.Witness.hSE C08.Witness.hsSE (by decide) (by decide +kernel)
example : stepPayload none kaifaObisBody = .ok (some 5, some (kaifaObisExpected C08.Witness.seList)) :=
  own_kaifa_obis_body_fresh _ (by decide +kernel) _
    (C08.kaifa_obis_body_final _ C08.Witness.hSE C08.Witness.hsSE (by decide))

/-- `own_kamstrup_body_fresh`, `_wf`, `_version` : the real hourly list -/
example : stepPayload none kamBody = .ok (some 6, some (kamExpected C09.Witness.real)) ∧
    5 ≤ C09.Witness.real.version.length := by
  have hf : ∃ e rest, C09.Witness.real.elems = e :: rest ∧ ∃ b ∈ e.obis, 128 ≤ b :=
    ⟨_, _, rfl, 255, by decide, by decide⟩
  exact ⟨own_kamstrup_body_fresh_version C09.scaledCorrect _ C09.Witness.wfReal (by decide) hf (by decide +kernel),
    by decide +kernel⟩
example : stepPayload none kamBody = .ok (some 6, some (kamExpected C09.Witness.real)) := by
  have hf : ∃ e rest, C09.Witness.real.elems = e :: rest ∧ ∃ b ∈ e.obis, 128 ≤ b :=
    ⟨_, _, rfl, 255, by decide, by decide⟩
  exact own_kamstrup_body_fresh_wf C09.scaledCorrect _ C09.Witness.wfReal (by decide) hf (by decide +kernel)
example : stepPayload none kamBody = .ok (some 6, some (kamExpected C09.Witness.real)) := by
  have hf : ∃ e rest, C09.Witness.real.elems = e :: rest ∧ ∃ b ∈ e.obis, 128 ≤ b :=
    ⟨_, _, rfl, 255, by decide, by decide⟩
  exact own_kamstrup_body_fresh _ C09.Witness.wfReal (by decide) hf (by decide +kernel) _
    (C09.kamstrup_body_final _ C09.Witness.wfReal)

end Amshan.C12.Witness
