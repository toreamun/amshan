import Amshan.Props.C16Hdlc
import Amshan.Lemmas.HdlcReadLevel
import Amshan.Lemmas.HdlcResyncPlain
/-
  C16 (HDLC part) at the entry point: any reader reachable by `read()` calls on byte strings
  (`ReachableOct`), then arbitrary octets `pre`, then the clean stream, split into `read()` calls in any
  way.  Without stuffing the loss is bounded by `maxFrameLen + L` (2047 octets plus one frame length).
  With abort detection on there is no hypothesis on the last octet of the frames: the conclusion says
  which frames come out (`HdlcClean.survivors`) — the loss of a clean frame whose last octet is 0x7D is
  inherent in the abort-sequence rule of the source (escape octet directly followed by a flag = abort)
  and already happens on a perfectly clean stream read by a new reader
  (`hdlc_plain_clean_survivors`, `hdlc_abort_frame_and_successor_lost`).
-/
namespace Amshan.C16
open Amshan.Gen Amshan.Hdlc Amshan.HdlcSpec Amshan.HdlcClean

/-- **C16 (octet stuffing), for `read()` from any reachable reader.** After any history of `read()`
    calls and ANY further octets `pre`, a clean stream of stuffed well-formed frames is delivered
    completely except possibly its first frame, however the octets are split into `read()` calls. -/
theorem hdlc_resync_stuffing_read (cfg : Cfg) (hst : cfg.stuffing = true)
    (r : Reader) (hr : ReachableOct cfg r) (pre : List Nat) (hpre : Octets pre)
    (fs : List (FrameDesc × Nat)) (closing : Nat)
    (hfs : ∀ p ∈ fs, p.1.WF ∧ 1 ≤ p.2) (hcl : 1 ≤ closing)
    (chunks : List (List Nat)) (hch : chunks.flatten = pre ++ wire true [] fs closing) :
    ∃ junk, (readAll cfg r chunks).2.flatten = junk ++ fs.tail.map (fun p => expectedFrame p.1) := by
  rw [hr.frames_eq_run chunks, hch]
  exact resync_stuffing_from cfg hst r.core hr.coreInv pre hpre fs closing hfs hcl

/-- **C16 (no stuffing), sharp bound, octet machine.** Same hypotheses as `hdlc_resync_plain`; the
    frames lost before delivery resumes occupy (with their fill) at most `maxFrameLen + L` octets of
    the clean stream, `L` = the largest wire length `fill + |frame|` of a frame: a frame that
    starts more than 2047 octets plus one frame length into the clean stream is delivered.

    Why the `+ L` cannot be dropped: a garbage frame in progress swallows flags and whole frames until
    it is longer than 2047 octets; the frame in which that happens is lost with it, and when it
    happens exactly on the closing flag of a frame the reader hunts and also skips the next frame if
    only that one flag separates them — in both cases the lost frames END at most one frame length
    after octet 2047.  On 60 copies of the real 43-octet (with fill) Aidon frame behind a real header
    announcing 39 octets, the model (abort off) loses 48 frames = 2064 octets > 2047 and delivers the
    other 12: `k = 48` is what this theorem allows (48·43 ≤ 2047 + 43 < 49·43), see the instance at
    the end of the file. -/
theorem hdlc_resync_plain_tight (cfg : Cfg) (hst : cfg.stuffing = false) (pre : List Nat)
    (hpre : Octets pre) (fs : List (FrameDesc × Nat)) (closing L : Nat)
    (hfs : ∀ p ∈ fs, p.1.WF ∧ 1 ≤ p.2 ∧ flag ∉ p.1.encode ∧
      (cfg.abort = true → p.1.encode.getLast? ≠ some esc) ∧ p.2 + p.1.encode.length ≤ L)
    (hcl : 1 ≤ closing) :
    ∃ junk k, (run cfg Core.init (pre ++ wire false [] fs closing)).2 =
        junk ++ (fs.drop k).map (fun p => expectedFrame p.1) ∧
      ((fs.take k).map (fun p => p.2 + p.1.encode.length)).sum ≤ maxFrameLen + L :=
  resync_plain_from cfg hst Core.init CoreInv_init pre hpre fs closing L hfs hcl

/-- **C16 (no stuffing), through any splitting into `read()` calls**, with the sharp bound. -/
theorem hdlc_resync_plain_chunked (cfg : Cfg) (hst : cfg.stuffing = false) (pre : List Nat)
    (hpre : Octets pre) (fs : List (FrameDesc × Nat)) (closing L : Nat)
    (hfs : ∀ p ∈ fs, p.1.WF ∧ 1 ≤ p.2 ∧ flag ∉ p.1.encode ∧
      (cfg.abort = true → p.1.encode.getLast? ≠ some esc) ∧ p.2 + p.1.encode.length ≤ L)
    (hcl : 1 ≤ closing)
    (chunks : List (List Nat)) (hch : chunks.flatten = pre ++ wire false [] fs closing) :
    ∃ junk k, (readAll cfg Reader.init chunks).2.flatten =
        junk ++ (fs.drop k).map (fun p => expectedFrame p.1) ∧
      ((fs.take k).map (fun p => p.2 + p.1.encode.length)).sum ≤ maxFrameLen + L := by
  rw [readAll_init, hch]
  exact hdlc_resync_plain_tight cfg hst pre hpre fs closing L hfs hcl

/-- **C16 (no stuffing), for `read()` from any reachable reader**, sharp bound. -/
theorem hdlc_resync_plain_read (cfg : Cfg) (hst : cfg.stuffing = false)
    (r : Reader) (hr : ReachableOct cfg r) (pre : List Nat)
    (hpre : Octets pre) (fs : List (FrameDesc × Nat)) (closing L : Nat)
    (hfs : ∀ p ∈ fs, p.1.WF ∧ 1 ≤ p.2 ∧ flag ∉ p.1.encode ∧
      (cfg.abort = true → p.1.encode.getLast? ≠ some esc) ∧ p.2 + p.1.encode.length ≤ L)
    (hcl : 1 ≤ closing)
    (chunks : List (List Nat)) (hch : chunks.flatten = pre ++ wire false [] fs closing) :
    ∃ junk k, (readAll cfg r chunks).2.flatten =
        junk ++ (fs.drop k).map (fun p => expectedFrame p.1) ∧
      ((fs.take k).map (fun p => p.2 + p.1.encode.length)).sum ≤ maxFrameLen + L := by
  rw [hr.frames_eq_run chunks, hch]
  exact resync_plain_from cfg hst r.core hr.coreInv pre hpre fs closing L hfs hcl

/-- **C16 (no stuffing) without the exception for frames ending in 0x7D.**  For flag-free well-formed
    frames, whatever their last octet and whether abort detection is on or off: there is a point at
    most `maxFrameLen + L` octets into the clean stream from which on the frames delivered are
    exactly `survivors cfg false` of the remaining frames — every frame, except (abort detection on)
    a frame whose last octet is 0x7D, which the reader takes for an abort sequence, and the frame
    directly behind such a frame when a single flag separates them (the reader is then hunting and
    that flag is the one it was waiting for).  See `survivors_all`, `survivors_cons_ok`,
    `survivors_cons_cons_ok`, `survivors_mem` for what `survivors` keeps. -/
theorem hdlc_resync_plain_survivors_read (cfg : Cfg) (hst : cfg.stuffing = false)
    (r : Reader) (hr : ReachableOct cfg r) (pre : List Nat)
    (hpre : Octets pre) (fs : List (FrameDesc × Nat)) (closing L : Nat)
    (hfs : ∀ p ∈ fs, p.1.WF ∧ 1 ≤ p.2 ∧ flag ∉ p.1.encode ∧ p.2 + p.1.encode.length ≤ L)
    (hcl : 1 ≤ closing)
    (chunks : List (List Nat)) (hch : chunks.flatten = pre ++ wire false [] fs closing) :
    ∃ junk k, (readAll cfg r chunks).2.flatten =
        junk ++ (survivors cfg false (fs.drop k)).map expectedFrame ∧
      ((fs.take k).map (fun p => p.2 + p.1.encode.length)).sum ≤ maxFrameLen + L := by
  rw [hr.frames_eq_run chunks, hch]
  exact resync_plain_survivors_from cfg hst r.core hr.coreInv pre hpre fs closing L hfs hcl

/-- when no frame ends like an abort sequence (always the case with abort detection off) the
    survivors are all frames -/
theorem survivors_no_abort (cfg : Cfg) (fs : List (FrameDesc × Nat))
    (h : ∀ p ∈ fs, cfg.abort = true → p.1.encode.getLast? ≠ some esc) :
    survivors cfg false fs = fs.map (·.1) :=
  survivors_all cfg fs (fun p hp ha => h p hp ha.1 ha.2)

/-- **readable consequence**: past the resynchronisation point every frame that does not end in 0x7D
    and whose predecessor in the stream does not end in 0x7D either is among the frames `read()`
    returns (no hypothesis on the other frames). -/
theorem hdlc_resync_plain_abort_delivered (cfg : Cfg) (hst : cfg.stuffing = false)
    (r : Reader) (hr : ReachableOct cfg r) (pre : List Nat)
    (hpre : Octets pre) (fs : List (FrameDesc × Nat)) (closing L : Nat)
    (hfs : ∀ p ∈ fs, p.1.WF ∧ 1 ≤ p.2 ∧ flag ∉ p.1.encode ∧ p.2 + p.1.encode.length ≤ L)
    (hcl : 1 ≤ closing)
    (chunks : List (List Nat)) (hch : chunks.flatten = pre ++ wire false [] fs closing) :
    ∃ k, ((fs.take k).map (fun p => p.2 + p.1.encode.length)).sum ≤ maxFrameLen + L ∧
      ∀ i (hi : i + 1 < fs.length), k ≤ i →
        fs[i].1.encode.getLast? ≠ some esc → fs[i + 1].1.encode.getLast? ≠ some esc →
        expectedFrame fs[i + 1].1 ∈ (readAll cfg r chunks).2.flatten := by
  obtain ⟨junk, k, e, hb⟩ :=
    hdlc_resync_plain_survivors_read cfg hst r hr pre hpre fs closing L hfs hcl chunks hch
  refine ⟨k, hb, ?_⟩
  intro i hi hki h0 h1
  rw [e]
  apply List.mem_append_right
  apply List.mem_map_of_mem
  obtain ⟨j, rfl⟩ : ∃ j, i = k + j := ⟨i - k, by omega⟩
  have hj : j + 1 < (fs.drop k).length := by rw [List.length_drop]; omega
  -- the bound proofs of `(fs.drop k)[j]` come from `survivors_mem`: stating them afresh is slow
  have := survivors_mem cfg false (fs.drop k) j hj
    (by rw [List.getElem_drop]; exact fun ha => h0 ha.2)
    (by rw [List.getElem_drop]; exact fun ha => h1 ha.2)
  rwa [List.getElem_drop] at this

/-- **the abort-sequence rule on a clean stream** (no stuffing): a new reader given flag-free noise
    and flag-free well-formed frames separated by flags returns exactly the `survivors`.  With abort
    detection on this is NOT all frames as soon as a frame ends in 0x7D — no resynchronisation is
    involved, the loss is the documented abort rule applied to a clean frame. -/
theorem hdlc_plain_clean_survivors (cfg : Cfg) (hst : cfg.stuffing = false)
    (noise : List Nat) (fs : List (FrameDesc × Nat)) (closing : Nat)
    (hnoise : flag ∉ noise) (hfs : ∀ p ∈ fs, p.1.WF ∧ 1 ≤ p.2 ∧ flag ∉ p.1.encode) (hcl : 1 ≤ closing)
    (chunks : List (List Nat)) (hch : chunks.flatten = wire false noise fs closing) :
    (readAll cfg Reader.init chunks).2.flatten = (survivors cfg false fs).map expectedFrame := by
  rw [readAll_init, hch, wire_eq_shifted _ _ _ _ (fun p hp => (hfs p hp).2.1) hcl, run_append,
    run_hunt_noflag cfg Core.init noise rfl hnoise, run_cons, step_hunt_flag cfg Core.init rfl,
    run_shifted_synced cfg hst .fresh fs _ fun p hp => ⟨(hfs p hp).1, (hfs p hp).2.2⟩]
  rfl

/-- **inherent loss**: abort detection on, no stuffing, clean stream, new reader — a well-formed
    flag-free frame `d` whose last octet is 0x7D is not delivered, and neither is the frame `d'` behind
    it when one flag separates them; the frames after these two come out as if the stream began there. -/
theorem hdlc_abort_frame_and_successor_lost (cfg : Cfg) (hst : cfg.stuffing = false)
    (hab : cfg.abort = true) (noise : List Nat) (d d' : FrameDesc) (n : Nat)
    (rest : List (FrameDesc × Nat)) (closing : Nat)
    (hesc : d.encode.getLast? = some esc)
    (hnoise : flag ∉ noise)
    (hfs : ∀ p ∈ (d, n) :: (d', 1) :: rest, p.1.WF ∧ 1 ≤ p.2 ∧ flag ∉ p.1.encode) (hcl : 1 ≤ closing)
    (chunks : List (List Nat))
    (hch : chunks.flatten = wire false noise ((d, n) :: (d', 1) :: rest) closing) :
    (readAll cfg Reader.init chunks).2.flatten = (survivors cfg false rest).map expectedFrame := by
  rw [hdlc_plain_clean_survivors cfg hst noise _ closing hnoise hfs hcl chunks hch]
  have ha : abortsAtEnd cfg d := ⟨hab, hesc⟩
  simp [survivors, ha]

/-! ### non-vacuity, on real frames

  `fAidon`: tests/test_hdlc.py FRAME_WITH_ESCAPE_CHARACTER_IN_INFO (42 octets, active power 1661 W =
  `00 00 06 7D`, no flag octet).  `fAidonEsc`: the same push with active power 16442 W (`00 00 40 3A`):
  its FCS is `42 7D`, so the frame ends in the escape octet.  `fKaifa`, `fEmpty` as in Props/C02Read. -/
namespace ReadWitness
set_option linter.defProp false
set_option maxRecDepth 100000

def aidon (a b : Nat) : FrameDesc :=
  { fmt := 10, seg := false, dst := [0x41], src := [0x08, 0x83], ctl := 0x13,
    info := [0xE6, 0xE7, 0x00, 0x0F, 0x40, 0x00, 0x00, 0x00, 0x00, 0x01, 0x01, 0x02, 0x03, 0x09, 0x06, 0x01, 0x00,
             0x01, 0x07, 0x00, 0xFF, 0x06, 0x00, 0x00, a, b, 0x02, 0x02, 0x0F, 0x00, 0x16, 0x1B] }
def fAidon : FrameDesc := aidon 0x06 0x7D
def fAidonEsc : FrameDesc := aidon 0x40 0x3A
def fKaifa : FrameDesc :=
  { fmt := 10, seg := false, dst := [0x01], src := [0x02, 0x01], ctl := 0x10,
    info := [0xE6, 0xE7, 0x00, 0x0F, 0x40, 0x00, 0x00, 0x00, 0x09, 0x0C, 0x07, 0xE4, 0x02, 0x0F, 0x06, 0x01, 0x19,
             0x22, 0xFF, 0x80, 0x00, 0x00, 0x02, 0x01, 0x06, 0x00, 0x00, 0x15, 0x7E] }
def fEmpty : FrameDesc := { fmt := 10, seg := false, dst := [0x01], src := [0x02, 0x01], ctl := 0x10, info := [] }

example : fAidon.encode = [0xA0, 0x2A, 0x41, 0x08, 0x83, 0x13, 0x04, 0x13] ++ fAidon.info ++ [0x1C, 0x05] ∧
    fAidonEsc.encode = [0xA0, 0x2A, 0x41, 0x08, 0x83, 0x13, 0x04, 0x13] ++ fAidonEsc.info ++ [0x42, 0x7D] ∧
    fAidonEsc.WF ∧ flag ∉ fAidonEsc.encode ∧ fAidonEsc.encode.getLast? = some esc := by
  decide +kernel

/-- every octet in a `read()` call of its own -/
def bytewise (w : List Nat) : List (List Nat) := w.map ([·])
def bytewise_flatten (w : List Nat) : (bytewise w).flatten = w := by
  induction w with
  | nil => rfl
  | cons a t ih => simpa [bytewise] using ih

/-- pieces of 64 octets (the last one shorter), then an empty call -/
def chunks64 : Nat → List Nat → List (List Nat)
  | 0, w => [w, []]
  | n + 1, w => w.take 64 :: chunks64 n (w.drop 64)
def chunks64_flatten (n : Nat) (w : List Nat) : (chunks64 n w).flatten = w := by
  induction n generalizing w with
  | zero => simp [chunks64]
  | succ n ih => simp [chunks64, ih]

/-- a reachable reader in the middle of a garbage frame: after noise it was given the real Kaifa
    header (HCS good, announcing 39 octets) and three more octets, in two calls -/
def hist : List (List Nat) := [[0x00, 0xFF, 0x7E, 0xA0, 0x27, 0x01], [0x02, 0x01, 0x10, 0x5A, 0x87, 0xE6, 0x00, 0x11]]
def rd (cfg : Cfg) : Reader := (readAll cfg Reader.init hist).1
def rd_reach (cfg : Cfg) : ReachableOct cfg (rd cfg) := ⟨hist, by decide, rfl⟩

example (cfg : Cfg) : (rd cfg).core.frame.isSome = true := by
  show (readAll cfg Reader.init hist).1.core.frame.isSome = true
  rw [readAll_core cfg Reader.init hist Reader.init_buf]
  obtain ⟨s, a⟩ := cfg
  cases s <;> cases a <;> decide +kernel

def framesS : List (FrameDesc × Nat) := [(fKaifa, 1), (fAidon, 3), (fEmpty, 2)]
/-- more garbage: an aborted frame start and one ending in a lone escape octet -/
def preS : List Nat := [0x7D, 0x7E, 0x7E, 0xA0, 0x27, 0x01, 0x7D]

example (abort : Bool) :
    ∃ junk, (readAll ⟨true, abort⟩ (rd ⟨true, abort⟩) (bytewise (preS ++ wire true [] framesS 2))).2.flatten =
      junk ++ [expectedFrame fAidon, expectedFrame fEmpty] :=
  hdlc_resync_stuffing_read ⟨true, abort⟩ rfl _ (rd_reach _) preS (by decide) framesS 2 (by decide)
    (by decide) _ (bytewise_flatten _)

/-! #### `hdlc_resync_plain_tight`, `_chunked`, `_read`: sixty copies of the real Aidon frame with one
    flag of fill (43 octets each, 2 580 in all) behind the garbage frame in progress -/

def many : List (FrameDesc × Nat) := List.replicate 60 (fAidon, 1)

def sum_rep (n a : Nat) : (List.replicate n a).sum = n * a := by
  induction n with
  | zero => simp
  | succ n ih => rw [List.replicate_succ, List.sum_cons, ih, Nat.succ_mul]; omega

def hfsP (abort : Bool) : ∀ p ∈ many, p.1.WF ∧ 1 ≤ p.2 ∧ flag ∉ p.1.encode ∧
    ((Cfg.mk false abort).abort = true → p.1.encode.getLast? ≠ some esc) ∧ p.2 + p.1.encode.length ≤ 43 := by
  intro p hp
  rw [List.eq_of_mem_replicate hp]
  refine ⟨by decide, by decide, by decide +kernel, fun _ => by decide +kernel, by decide +kernel⟩

/-- from the bound `maxFrameLen + 43`: at most 48 of the 60 frames are lost -/
def atLeast12 (k : Nat)
    (hk : ((many.take k).map (fun p => p.2 + p.1.encode.length)).sum ≤ maxFrameLen + 43) : 12 ≤ 60 - k := by
  have he : (1 + fAidon.encode.length) = 43 := by decide +kernel
  have hs : ((many.take k).map (fun p => p.2 + p.1.encode.length)).sum = min k 60 * 43 := by
    simp only [many, List.take_replicate, List.map_replicate, he]
    exact sum_rep _ _
  rw [hs] at hk
  have : maxFrameLen = 2047 := by decide
  omega

def preP : List Nat := [0x7E, 0xA0, 0x27, 0x01, 0x02, 0x01, 0x10, 0x5A, 0x87, 0xE6, 0x00, 0x11, 0x7D]

/-- octet machine -/
example (abort : Bool) : ∃ junk k, (run ⟨false, abort⟩ Core.init (preP ++ wire false [] many 1)).2 =
      junk ++ (List.replicate (60 - k) (expectedFrame fAidon)) ∧ 12 ≤ 60 - k := by
  obtain ⟨junk, k, h, hk⟩ :=
    hdlc_resync_plain_tight ⟨false, abort⟩ rfl preP (by decide) many 1 43 (hfsP abort) (by decide)
  exact ⟨junk, k, by rw [h]; simp only [many, List.drop_replicate, List.map_replicate], atLeast12 k hk⟩

/-- new reader, 64-octet pieces and an empty call -/
example (abort : Bool) :
    ∃ junk k, (readAll ⟨false, abort⟩ Reader.init (chunks64 50 (preP ++ wire false [] many 1))).2.flatten =
      junk ++ (List.replicate (60 - k) (expectedFrame fAidon)) ∧ 12 ≤ 60 - k := by
  obtain ⟨junk, k, h, hk⟩ :=
    hdlc_resync_plain_chunked ⟨false, abort⟩ rfl preP (by decide) many 1 43 (hfsP abort) (by decide)
      _ (chunks64_flatten _ _)
  exact ⟨junk, k, by rw [h]; simp only [many, List.drop_replicate, List.map_replicate], atLeast12 k hk⟩

/-- the reachable mid-frame reader, then a lone escape octet, then the clean stream, octet by octet -/
example (abort : Bool) :
    ∃ junk k, (readAll ⟨false, abort⟩ (rd ⟨false, abort⟩) (bytewise ([0x7D] ++ wire false [] many 1))).2.flatten =
      junk ++ (List.replicate (60 - k) (expectedFrame fAidon)) ∧ 12 ≤ 60 - k := by
  obtain ⟨junk, k, h, hk⟩ :=
    hdlc_resync_plain_read ⟨false, abort⟩ rfl _ (rd_reach _) [0x7D] (by decide) many 1 43 (hfsP abort)
      (by decide) _ (bytewise_flatten _)
  exact ⟨junk, k, by rw [h]; simp only [many, List.drop_replicate, List.map_replicate], atLeast12 k hk⟩

/-- **the bound is attained** (abort detection off): the model delivers exactly 12 of the 60 frames —
    48 frames = 2064 octets > 2047 are lost, one more than `maxFrameLen` alone would allow and exactly
    what `maxFrameLen + L` allows (49·43 = 2107 > 2090). -/
def delivers12 : (run ⟨false, false⟩ Core.init (preP ++ wire false [] many 1)).2 =
    List.replicate 12 (expectedFrame fAidon) := by
  decide +kernel

/-- hence the statement with `maxFrameLen` in place of `maxFrameLen + L` is FALSE on this instance: the
    frame-length term is needed -/
example : ¬ ∃ junk k, (run ⟨false, false⟩ Core.init (preP ++ wire false [] many 1)).2 =
      junk ++ (many.drop k).map (fun p => expectedFrame p.1) ∧
    ((many.take k).map (fun p => p.2 + p.1.encode.length)).sum ≤ maxFrameLen := by
  rintro ⟨junk, k, h, hk⟩
  rw [delivers12] at h
  have hl := congrArg List.length h
  simp only [many, List.length_replicate, List.length_append, List.length_map, List.length_drop] at hl
  have he : (1 + fAidon.encode.length) = 43 := by decide +kernel
  have hs : ((many.take k).map (fun p => p.2 + p.1.encode.length)).sum = min k 60 * 43 := by
    simp only [many, List.take_replicate, List.map_replicate, he]
    exact sum_rep _ _
  rw [hs] at hk
  have : maxFrameLen = 2047 := by decide
  omega

/-- a clean stream, a new reader, abort detection ON: of three real frames the second ends in 0x7D; only
    the first is delivered — the second is taken for an abort sequence, the third is skipped while
    hunting.  Checked directly on the model, then obtained from the theorems. -/
def three : List (FrameDesc × Nat) := [(fAidon, 1), (fAidonEsc, 1), (fAidon, 1)]

example : (run ⟨false, true⟩ Core.init (wire false [] three 1)).2 = [expectedFrame fAidon] := by
  decide +kernel

/-- with abort detection OFF the same stream is delivered completely -/
example : (run ⟨false, false⟩ Core.init (wire false [] three 1)).2 =
    [expectedFrame fAidon, expectedFrame fAidonEsc, expectedFrame fAidon] :=
  clean_run_from ⟨false, false⟩ Core.init [] three 1 (Or.inl rfl) (by simp) (by decide +kernel) (by decide)

def hthree : ∀ p ∈ three, p.1.WF ∧ 1 ≤ p.2 ∧ flag ∉ p.1.encode := by decide +kernel

/-- `hdlc_plain_clean_survivors`, octet by octet -/
example : (readAll ⟨false, true⟩ Reader.init (bytewise (wire false [0xC3] three 1))).2.flatten =
    [expectedFrame fAidon] := by
  rw [hdlc_plain_clean_survivors ⟨false, true⟩ rfl [0xC3] three 1 (by decide) hthree (by decide) _
    (bytewise_flatten _)]
  decide +kernel

/-- `hdlc_abort_frame_and_successor_lost`: the frame ending in 0x7D first -/
example : (readAll ⟨false, true⟩ Reader.init
      (bytewise (wire false [] [(fAidonEsc, 2), (fAidon, 1), (fEmpty, 1), (fAidon, 1)] 1))).2.flatten =
    [expectedFrame fEmpty, expectedFrame fAidon] := by
  have hk : fAidonEsc.encode.getLast? = some esc ∧
      (∀ p ∈ [(fAidonEsc, 2), (fAidon, 1), (fEmpty, 1), (fAidon, 1)],
        p.1.WF ∧ 1 ≤ p.2 ∧ flag ∉ p.1.encode) ∧
      survivors ⟨false, true⟩ false [(fEmpty, 1), (fAidon, 1)] = [fEmpty, fAidon] := by
    decide +kernel
  rw [hdlc_abort_frame_and_successor_lost ⟨false, true⟩ rfl rfl [] fAidonEsc fAidon 2
    [(fEmpty, 1), (fAidon, 1)] 1 hk.1 (by decide) hk.2.1 (by decide) _ (bytewise_flatten _), hk.2.2]
  rfl

/-- `hdlc_resync_plain_survivors_read` / `hdlc_resync_plain_abort_delivered`: behind the mid-frame reader
    and a lone escape octet, a stream with two frames ending in 0x7D; all hypotheses hold (there is
    none on the last octets) -/
def mixed : List (FrameDesc × Nat) :=
  [(fAidon, 1), (fAidonEsc, 1), (fAidon, 1), (fAidon, 2), (fAidonEsc, 2), (fAidon, 2), (fAidon, 1)]

def hmixed : ∀ p ∈ mixed, p.1.WF ∧ 1 ≤ p.2 ∧ flag ∉ p.1.encode ∧ p.2 + p.1.encode.length ≤ 44 := by
  decide +kernel

example : ∃ junk k, (readAll ⟨false, true⟩ (rd ⟨false, true⟩) (bytewise ([0x7D] ++ wire false [] mixed 1))).2.flatten =
      junk ++ (survivors ⟨false, true⟩ false (mixed.drop k)).map expectedFrame ∧
    ((mixed.take k).map (fun p => p.2 + p.1.encode.length)).sum ≤ maxFrameLen + 44 :=
  hdlc_resync_plain_survivors_read ⟨false, true⟩ rfl _ (rd_reach _) [0x7D] (by decide) mixed 1 44 hmixed
    (by decide) _ (bytewise_flatten _)

/-- what `survivors` is on this stream: the frames ending in 0x7D are dropped, and the one directly behind
    the first of them (one flag); the one behind the second (two flags) is kept -/
example : survivors ⟨false, true⟩ false mixed = [fAidon, fAidon, fAidon, fAidon] ∧
    survivors ⟨false, false⟩ false mixed = mixed.map (·.1) := by
  decide +kernel

/-- the last frame (index 6) follows a frame not ending in 0x7D: if the resynchronisation point is at or
    before index 5 it is returned -/
example : ∃ k, ∀ (_ : k ≤ 5), expectedFrame fAidon ∈
    (readAll ⟨false, true⟩ (rd ⟨false, true⟩) (bytewise ([0x7D] ++ wire false [] mixed 1))).2.flatten := by
  obtain ⟨k, _, h⟩ := hdlc_resync_plain_abort_delivered ⟨false, true⟩ rfl _ (rd_reach _) [0x7D] (by decide)
    mixed 1 44 hmixed (by decide) _ (bytewise_flatten _)
  exact ⟨k, fun hk => h 5 (by decide) hk (by decide +kernel) (by decide +kernel)⟩

/-- `survivors_no_abort` -/
example : survivors ⟨false, true⟩ false many = many.map (·.1) :=
  survivors_no_abort _ many (fun p hp => (hfsP true p hp).2.2.2.1)

end ReadWitness

end Amshan.C16
