import Amshan.Lemmas.GenCodeAuto
/-
  C12 (tie by translation) — `AutoDecoder.decode_message_payload` and `previous_success_decoder`, mechanically
  translated from the current source (Amshan/GeneratedCodeAuto.lean), equal the model that the theorems of this
  property speak about (`Auto.step` = the rotation `Auto.tryLoop` over the decoder table, started at the remembered
  decoder; `Auto.previousName`).

  Generic like the model: the table `payload_decoder_functions` is the parameter `decs` — opaque callables
  `α → Except PyExc β` (`decoder(payload)` returns a value or raises) — and the `except <classes>:` clause is the
  parameter `caught` (an exception e of the decoder is swallowed iff `caught e`; the class list itself is data:
  `Gen.caughtPayload`, about which `C12.all_caught` speaks).  `self.__previous_success` is the state: the translated
  method takes its value on entry and answers `Except PyExc (its value afterwards × what Python returns)`; `.error e`
  is an exception that leaves the method.

  The equality holds for EVERY table — for the empty one the loop does not run and the method returns None (and
  `% len(table)` is never evaluated) — every `caught`, and every remembered index, in range or not: the index that is
  looked up is reduced `% len(table)`, so the lookup (outside the `try`: an IndexError would not be caught) never
  fails, in the source as in the model (`.error .indexError` is unreachable in both).
-/
namespace Amshan.C12
open Amshan.Auto Amshan.GenCode

/-- `decode_message_payload(payload)` with `__previous_success = prev`: the new `__previous_success` and the result -/
theorem gen_decodePayload {α β : Type} (decs : List (Decoder α β)) (caught : PyExc → Bool) (prev : Option Nat) (payload : α) :
    autoDecodeMessagePayload decs caught prev payload = Auto.step decs caught prev payload := by
  exact GenLemmas.autoDecodeMessagePayload_eq decs caught prev payload

/-- whatever index is remembered, the table lookup of the translated method is in range: unless a decoder raises
    IndexError itself, none leaves the method -/
theorem gen_decodePayload_no_indexError {α β : Type} (decs : List (Decoder α β)) (caught : PyExc → Bool) (prev : Option Nat)
    (payload : α) (hc : ∀ d ∈ decs, d payload ≠ .error .indexError) :
    autoDecodeMessagePayload decs caught prev payload ≠ .error .indexError := by
  rw [gen_decodePayload]
  exact GenLemmas.step_ne_indexError decs caught prev payload hc

/-- `previous_success_decoder` for a remembered index inside the table (Python raises IndexError outside; the model
    answers none there): the name at that index -/
theorem gen_previousName (names : List String) (prev : Option Nat) (h : ∀ i, prev = some i → i < names.length) :
    autoPreviousSuccessDecoder names prev = .ok (previousName names prev) := by
  exact GenLemmas.autoPreviousSuccessDecoder_eq names prev h

end Amshan.C12
