import Amshan.Props.C03
/-
  C03 / C01 — what the "good FCS" test buys: for every octet the register update is injective on the
  16-bit registers (so it permutes them), and for every register it is injective in the octet, hence

    * two messages that differ in exactly one octet never reach the same register, so
    * a message obtained from a good one by damaging exactly ONE octet (anywhere: header, payload or
      the check sequence itself) is never reported good — for every length and every position;
    * the same for damage confined to two neighbouring octets (two steps are sixteen serial shifts).

  This is the universal form of "no damaged frame is ever labelled valid" for such damage; it is a
  theorem about the model of `FastFrameCheckSequence16._next` (tied to the source by `gen_next` in
  Props/C03Gen.lean, the translated function, and by the regenerated table).
-/
namespace Amshan.C03
open Amshan.Gen Amshan.Rfc1662 Amshan.FcsLemmas

/-- for a fixed octet the step is injective in the register (so it permutes the 65 536 registers) -/
theorem next_inj_register (r r' b : Nat) (hr : r < 65536) (hr' : r' < 65536) (hb : b < 256)
    (h : Fcs.next r b = Fcs.next r' b) : r = r' :=
  next_byteStep.inj_register hr hr' hb h

/-- for a fixed register the step is injective in the octet -/
theorem next_inj_octet (r b b' : Nat) (hr : r < 65536) (hb : b < 256) (hb' : b' < 256)
    (h : Fcs.next r b = Fcs.next r b') : b = b' :=
  next_byteStep.inj_octet hr hb hb' h

/-- feeding the same octets keeps different registers different -/
theorem feed_inj_register (bs : List Nat) (r r' : Nat) (hr : r < 65536) (hr' : r' < 65536)
    (h : Octets bs) (e : Fcs.feed r bs = Fcs.feed r' bs) : r = r' :=
  next_byteStep.foldl_inj_register hr hr' h e

/-- **Single-octet sensitivity.** Two messages that differ in exactly one octet (same prefix `p`,
    same suffix `s`, any lengths) leave different registers. -/
theorem one_octet_changes_register (p s : List Nat) (x y : Nat) (hp : Octets p) (hs : Octets s)
    (hx : x < 256) (hy : y < 256) (hne : x ≠ y) :
    Fcs.feed fcsInit (p ++ x :: s) ≠ Fcs.feed fcsInit (p ++ y :: s) :=
  next_byteStep.one_octet_ne (by decide) hp hs hx hy hne

theorem not_good_of_ne {a b : Nat} (ha : Fcs.isGood a = true) (hne : a ≠ b) : Fcs.isGood b = false :=
  Bool.eq_false_iff.mpr fun hb => hne ((isGood_iff.mp ha).symm.trans (isGood_iff.mp hb))

/-- **C03/C01 (single-octet damage is always detected).** If a message is good, every message that
    differs from it in exactly one octet is not good. -/
theorem one_octet_damage_detected (p s : List Nat) (x y : Nat) (hp : Octets p) (hs : Octets s)
    (hx : x < 256) (hy : y < 256) (hne : x ≠ y)
    (good : Fcs.isGood (Fcs.feed fcsInit (p ++ x :: s)) = true) :
    Fcs.isGood (Fcs.feed fcsInit (p ++ y :: s)) = false :=
  not_good_of_ne good (one_octet_changes_register p s x y hp hs hx hy hne)

/-- the same for a message sealed with its own FCS: damage one octet of the body and the trailer no
    longer matches -/
theorem sealed_one_octet_damage_detected (p s : List Nat) (x y : Nat) (hp : Octets p) (hs : Octets s)
    (hx : x < 256) (hy : y < 256) (hne : x ≠ y) :
    Fcs.isGood (Fcs.feed fcsInit ((p ++ y :: s) ++
      [fcs16 (p ++ x :: s) % 256, fcs16 (p ++ x :: s) / 256])) = false := by
  have hm : Octets (p ++ x :: s) := Octets_append.mpr ⟨hp, Octets_cons.mpr ⟨hx, hs⟩⟩
  have hfl : fcs16 (p ++ x :: s) < 65536 := by
    unfold fcs16
    rw [← update_eq _ hm]
    exact Nat.xor_lt_two_pow (n := 16) (feed_lt _ _ (by decide) hm) (by decide)
  have h0 : fcs16 (p ++ x :: s) % 256 < 256 := Nat.mod_lt _ (by decide)
  have h1 : fcs16 (p ++ x :: s) / 256 < 256 := by omega
  have good := (residue (p ++ x :: s) _ _ hm h0 h1).2 ⟨rfl, rfl⟩
  have hs' : Octets (s ++ [fcs16 (p ++ x :: s) % 256, fcs16 (p ++ x :: s) / 256]) :=
    Octets_append.mpr ⟨hs, Octets_cons.mpr ⟨h0, Octets_cons.mpr ⟨h1, Octets_nil⟩⟩⟩
  have := one_octet_damage_detected p (s ++ [fcs16 (p ++ x :: s) % 256, fcs16 (p ++ x :: s) / 256])
    x y hp hs' hx hy hne (by simpa [List.append_assoc] using good)
  simpa [List.append_assoc] using this

/-- two consecutive steps are injective in the pair of octets (a 16-bit burst never cancels) -/
theorem two_steps_inj (r x1 x2 y1 y2 : Nat) (hr : r < 65536) (hx1 : x1 < 256) (hx2 : x2 < 256)
    (hy1 : y1 < 256) (hy2 : y2 < 256)
    (h : Fcs.next (Fcs.next r x1) x2 = Fcs.next (Fcs.next r y1) y2) : x1 = y1 ∧ x2 = y2 := by
  rw [two_steps r x1 x2 hx1 hx2, two_steps r y1 y2 hy1 hy2] at h
  have h1 : r ^^^ (x1 + 256 * x2) < 65536 := Nat.xor_lt_two_pow (n := 16) hr (by omega)
  have h2 : r ^^^ (y1 + 256 * y2) < 65536 := Nat.xor_lt_two_pow (n := 16) hr (by omega)
  have e := xor_cancel_left (iter_inj 16 _ _ h1 h2 h)
  omega

/-- **Two adjacent octets.** Damage confined to two neighbouring octets (a burst of at most 16 bits) of a
    good message is always detected — any length, any position. -/
theorem two_adjacent_octets_damage_detected (p s : List Nat) (x1 x2 y1 y2 : Nat) (hp : Octets p)
    (hs : Octets s) (hx1 : x1 < 256) (hx2 : x2 < 256) (hy1 : y1 < 256) (hy2 : y2 < 256)
    (hne : ¬ (x1 = y1 ∧ x2 = y2))
    (good : Fcs.isGood (Fcs.feed fcsInit (p ++ x1 :: x2 :: s)) = true) :
    Fcs.isGood (Fcs.feed fcsInit (p ++ y1 :: y2 :: s)) = false := by
  refine not_good_of_ne good fun e => hne ?_
  rw [feed_append, feed_append] at e
  have hr : Fcs.feed fcsInit p < 65536 := feed_lt _ _ (by decide) hp
  exact two_steps_inj _ x1 x2 y1 y2 hr hx1 hx2 hy1 hy2
    (feed_inj_register s _ _ (next_lt _ x2 (next_lt _ x1 hr hx1) hx2)
      (next_lt _ y2 (next_lt _ y1 hr hy1) hy2) hs e)

/-- non-vacuity: a good message and a damaged copy -/
example : Fcs.isGood (Fcs.feed fcsInit ([1, 2, 3] ++ [fcs16 [1, 2, 3] % 256, fcs16 [1, 2, 3] / 256])) = true ∧
    Fcs.isGood (Fcs.feed fcsInit ([1, 7, 3] ++ [fcs16 [1, 2, 3] % 256, fcs16 [1, 2, 3] / 256])) = false := by
  decide +kernel

/-- non-vacuity of the two-octet form: the theorem applied to a concrete good message -/
example : Fcs.isGood (Fcs.feed fcsInit ([1] ++ 9 :: 7 :: [fcs16 [1, 2, 3] % 256, fcs16 [1, 2, 3] / 256])) = false :=
  two_adjacent_octets_damage_detected [1] [fcs16 [1, 2, 3] % 256, fcs16 [1, 2, 3] / 256] 2 3 9 7
    (by decide) (by decide +kernel) (by decide) (by decide) (by decide) (by decide) (by decide)
    (by decide +kernel)

end Amshan.C03
