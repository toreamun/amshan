import Amshan.Lemmas.GenCodeHdlcReader
/-
  C01 (tie by translation) — the state machine core of `HdlcFrameReader`: `_append_to_frame`, `_start_frame`,
  `_goto_hunt_mode`, `_handle_flag_sequence` and `_read_next` (for the octet popped from the buffer), mechanically
  translated from the source as state-passing functions (Amshan/GeneratedCodeHdlcReader.lean), equal the model's
  `appendToFrame`, `startFrame`, `gotoHunt`, `handleFlag`, `readNext`.

  `self` is the configuration `Cfg` (`_use_octet_stuffing`, `_use_abort_sequence`) and the record `Core` of the
  attributes the methods assign (`_unescape_next`, `_raw_frame_data`, `_frame`); how a method's answer, the flag
  `trimmed` and the opaque frame object are represented is said at the head of Lemmas/GenCodeHdlcReader.lean (the
  frame's own accessors are tied to the model in C01Gen).  `GenLemmas.pyAct trimmed frameComplete` reads what the
  Python did as the model's `Act`.

  All equalities hold for every configuration and every state, reachable or not; `gen_appendToFrame` carries the
  fact that the method asserts (`assert self._frame is not None`).
-/
namespace Amshan.C01
open Amshan.Hdlc Amshan.GenCode

/-- `_append_to_frame(x)`, called with a frame in place (`assert self._frame is not None`) -/
theorem gen_appendToFrame (cfg : Cfg) (c : Core) (f : Frame) (x : Nat) (hf : c.frame = some f) :
    hdlcAppendToFrame cfg c x = appendToFrame cfg c f x := by
  exact GenLemmas.hdlcAppendToFrame_eq cfg c f x hf

/-- `_start_frame()` -/
theorem gen_startFrame (c : Core) : hdlcStartFrame c = startFrame c := by
  exact GenLemmas.hdlcStartFrame_eq c

/-- `_goto_hunt_mode()`: the model's `gotoHunt`, and the input buffer is trimmed to the next flag -/
theorem gen_gotoHunt (c : Core) : hdlcGotoHuntMode c = (gotoHunt c, true) := by
  exact GenLemmas.hdlcGotoHuntMode_eq c

/-- `_handle_flag_sequence()`: the state afterwards is the model's, and what the Python did (returned
    `frame_complete`, called `_goto_hunt_mode`) is the model's `Act` -/
theorem gen_handleFlag (cfg : Cfg) (c : Core) :
    (hdlcHandleFlagSequence cfg c).1 = (handleFlag cfg c).1 ∧
      GenLemmas.pyAct (hdlcHandleFlagSequence cfg c).2.1 (hdlcHandleFlagSequence cfg c).2.2 = some (handleFlag cfg c).2 := by
  rw [GenLemmas.hdlcHandleFlagSequence_eq]
  exact ⟨rfl, GenLemmas.pyAct_actFlags _⟩

/-- `_read_next()`, for the octet `x` that `self._buffer.pop()` answers -/
theorem gen_readNext (cfg : Cfg) (c : Core) (x : Nat) :
    (hdlcReadNext cfg c x).1 = (readNext cfg c x).1 ∧
      GenLemmas.pyAct (hdlcReadNext cfg c x).2.1 (hdlcReadNext cfg c x).2.2 = some (readNext cfg c x).2 := by
  rw [GenLemmas.hdlcReadNext_eq]
  exact ⟨rfl, GenLemmas.pyAct_actFlags _⟩

end Amshan.C01
