import Amshan.Lemmas.P1Bound
/-
  C19 (P1 part) — the memory retained by the P1 reader after a read() call is bounded by a constant
  plus (twice) the size of the last chunk, independently of how many bytes were fed before.
  `Reader.size` = octets in the input bytearray (consumed ones are dropped at the next call)
                + octets of the collected lines (`_raw_data`).
  The constant is twice the guard: octets of a popped line stay in the bytearray (before the read
  position) until the next call while the same octets are copied into the collected lines, so a
  pending line is counted in both summands.
-/
namespace Amshan.C19
open Amshan.Gen Amshan.P1

/-- `p1Guard + 2 * chunk.length` is NOT a bound: after "/ABC5\r\n" followed by `p1Guard - 7` octets
    'a' (pending: 7 collected octets + 8184 unread octets without LF, within the guard) the
    one-octet chunk "\n" completes the line; then 8185 octets are before the read position of the
    bytearray and 8192 octets are collected: size 16377 > 8193. -/
example : ∃ r chunk r' outs, Reachable r ∧ read r chunk = .ok (r', outs) ∧
    ¬ r'.size ≤ p1Guard + 2 * chunk.length :=
  size_not_guard_plus_two_chunks

/-- The factor 2 on the guard: `size` counts the consumed octets still held by the bytearray and
    their copy in the collected lines (see the example above). -/
theorem p1_bounded (r : Reader) (hr : Reachable r) (chunk : List Nat) (r' : Reader)
    (outs : List Readout) (h : read r chunk = .ok (r', outs)) :
    r'.size ≤ 2 * p1Guard + 2 * chunk.length :=
  have _ := hr   -- reachability is not needed
  (read_bounds r chunk r' outs h).1

/-- what is carried into the next call (unread input + collected lines, after dropping consumed
    bytes) exceeds the guard by at most the last chunk; the next call's guard then resets it -/
theorem p1_pending_bounded (r : Reader) (hr : Reachable r) (chunk : List Nat) (r' : Reader)
    (outs : List Readout) (h : read r chunk = .ok (r', outs)) :
    r'.buf.inp.length + r'.raw.length ≤ p1Guard + chunk.length :=
  have _ := hr   -- reachability is not needed
  (read_bounds r chunk r' outs h).2

end Amshan.C19
