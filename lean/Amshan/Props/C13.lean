import Amshan.Lemmas.Proto
/-
  C13 — the protocols forward exactly the selected reader's messages, payloads only if valid.
  Generic in the candidate readers (any state, any `read`): instantiating with the HDLC and P1 reader
  models gives the statement for the real candidate lists.
-/
namespace Amshan.C13
open Amshan.Proto Amshan.ProtoSpec

/-- **C13 (message protocol).** For every chunk sequence and candidate list the queue holds exactly
    the messages (valid or not) of the selected reader from the chunk in which it first produced a
    valid message on, in order; the selected reader is the first candidate (list order) in the
    earliest such chunk. -/
theorem message_queue_exact (cands : List Rd) (chunks : List (List Nat)) :
    (runAll Kind.message (State.init cands) chunks).2 = (forwarded cands chunks).map Item.msg := by
  rw [← flatMap_received_message]
  exact (runAll_unselected Kind.message cands chunks).1

/-- **C13 (payload protocol).** …exactly the non-empty payloads of the messages the selected reader
    reports valid, in order, without loss or duplication; nothing from an invalid message or from a
    non-selected reader. -/
theorem payload_queue_exact (cands : List Rd) (chunks : List (List Nat)) :
    (runAll Kind.payload (State.init cands) chunks).2 =
      ((forwarded cands chunks).filterMap goodPayload).map Item.payload := by
  rw [← flatMap_received_payload]
  exact (runAll_unselected Kind.payload cands chunks).1

/-- which reader ends up selected -/
theorem selected_is_first_valid (k : Kind) (cands : List Rd) (chunks : List (List Nat)) :
    ((runAll k (State.init cands) chunks).1.selected.map (·.1)) = (selection cands chunks).map (·.2) :=
  (runAll_unselected k cands chunks).2

/-- a single candidate all of whose messages are valid: every non-empty payload reaches the queue
    (what precedes the selection is empty) -/
theorem single_candidate (r : Rd) (chunks : List (List Nat))
    (h : ∀ m ∈ (r.feedAll chunks).flatten, m.valid = true) :
    (runAll Kind.payload (State.init [r]) chunks).2 =
      (((r.feedAll chunks).flatten).filterMap goodPayload).map Item.payload := by
  rw [payload_queue_exact, forwarded_single r chunks h]

end Amshan.C13
