import Amshan.Lemmas.GenCodeP1Read
/-
  C05 (tie by translation, buffer level) — `ModeDReader.read(data_chunk)` and its line buffer `_ReaderBuffer`
  (han/dlde.py: `__len__`, `pop`, `extend`, `clear`, `trim_buffer_to_current_position`, `trim_buffer_to_flag_or_end`),
  mechanically translated from the current source (Amshan/GeneratedCodeP1Read.lean), equal the model's `P1.read`,
  `P1.loop` and `P1.Buf` functions.

  The Python-level state is the record `GenCode.P1PyReader` (`_buffer`: the record `GenCode.PyBuf` of the WHOLE
  bytearray and `_buffer_pos`; `_raw_data`; `_is_int_hunt_mode`).  The model forgets the contents of the bytearray
  before the read position: `GenLemmas.p1AbsBuf b = ⟨b.pos, b.buffer.drop b.pos⟩`, `GenLemmas.p1AbsReader` likewise; the
  buffer methods commute with it under the invariant `GenLemmas.P1BufInv b : b.pos ≤ b.buffer.length`, and keep it.

  Opaque in the translation, and mapped to the model: `DataReadout(raw)` is `Readout.make raw` (it may raise: the
  translated `read` answers `Except PyExc (state, readouts)`, like the model), `Ident.is_ident_line(text)` is
  `P1.isIdentLine`, `line.isascii()` is `Py.isAscii`, `line.decode("ascii")` gives the code points (`line[0]` and
  `decode` are total in the translation: Lemmas/GenCodeP1Read.lean discharges their guards).  The size guard is the
  literal of the source (the model reads the regenerated `p1Guard`).
-/
namespace Amshan.C05
open Amshan.P1 Amshan.GenCode Amshan.GenLemmas

/-- `__len__`: all the octets the bytearray holds - the model's `Buf.size` -/
theorem gen_p1_buf_len (b : PyBuf) (hb : P1BufInv b) : p1BufLen b = (p1AbsBuf b).size :=
  p1BufLen_eq b hb

/-- `pop()` without a complete line: None, nothing changes -/
theorem gen_p1_buf_pop_none (b : PyBuf) (h : (p1AbsBuf b).pop = none) : p1BufPop b = (b, none) :=
  p1BufPop_none b h

/-- `pop()` with a complete line (`bytearray.find` from the read position, the slice, the new position) -/
theorem gen_p1_buf_pop_some (b : PyBuf) (hb : P1BufInv b) (line : List Nat) (b1 : P1.Buf)
    (h : (p1AbsBuf b).pop = some (line, b1)) :
    (p1BufPop b).2 = some line ∧ p1AbsBuf (p1BufPop b).1 = b1 ∧ P1BufInv (p1BufPop b).1 :=
  p1BufPop_some b hb line b1 h

/-- `extend(data_chunk)` -/
theorem gen_p1_buf_extend (b : PyBuf) (chunk : List Nat) (hb : P1BufInv b) :
    p1AbsBuf (p1BufExtend b chunk) = (p1AbsBuf b).extend chunk ∧ P1BufInv (p1BufExtend b chunk) :=
  p1BufExtend_eq b chunk hb

/-- `clear()` -/
theorem gen_p1_buf_clear (b : PyBuf) : p1AbsBuf (p1BufClear b) = Buf.empty ∧ P1BufInv (p1BufClear b) :=
  p1BufClear_eq b

/-- `trim_buffer_to_current_position()` -/
theorem gen_p1_buf_trimToPos (b : PyBuf) :
    p1AbsBuf (p1BufTrimToPos b) = (p1AbsBuf b).trimToPos ∧ P1BufInv (p1BufTrimToPos b) :=
  p1BufTrimToPos_eq b

/-- `trim_buffer_to_flag_or_end()` -/
theorem gen_p1_buf_trimToFlagOrEnd (b : PyBuf) :
    p1AbsBuf (p1BufTrimToFlagOrEnd b) = (p1AbsBuf b).trimToFlagOrEnd ∧ P1BufInv (p1BufTrimToFlagOrEnd b) :=
  p1BufTrimToFlagOrEnd_eq b

/-- the `while True:` loop: the model's `loop`, for every fuel larger than the number of unread octets, whatever is
    answered when the fuel runs out (`oof`) -/
theorem gen_p1_read_loop (r0 : P1PyReader) (chunk : List Nat) (oof : Except PyExc (P1PyReader × List Readout))
    (fuel : Nat) (buf : PyBuf) (raw : List Nat) (hunt : Bool) (out : List Readout)
    (hb : P1BufInv buf) (hfuel : (p1AbsBuf buf).inp.length < fuel) :
    p1AbsAnswer (p1RdRead.loop1 r0 chunk oof fuel buf raw hunt out) = P1.loop (p1AbsBuf buf) raw hunt out :=
  (p1RdRead_loop_eq r0 chunk oof fuel buf raw hunt out hb hfuel).1

/-- `ModeDReader.read(data_chunk)`: for every Python-level reader state that satisfies the invariant, what the call
    answers - the exception, or the state afterwards (seen through the abstraction) and the readouts - is the model's -/
theorem gen_p1_read (r : P1PyReader) (chunk : List Nat) (hr : P1ReaderInv r) :
    p1AbsAnswer (p1RdRead r chunk) = P1.read (p1AbsReader r) chunk :=
  (p1RdRead_eq r chunk hr).1

/-- `read` preserves the invariant (when it returns) -/
theorem gen_p1_read_preserves_inv (r : P1PyReader) (chunk : List Nat) (hr : P1ReaderInv r)
    (p : P1PyReader × List Readout) (h : p1RdRead r chunk = .ok p) : P1ReaderInv p.1 :=
  (p1RdRead_eq r chunk hr).2 p h

/-- the reader that `ModeDReader.__init__` builds satisfies the invariant and is the model's initial reader -/
theorem gen_p1_init_inv : P1ReaderInv { buf := { buffer := [], pos := 0 }, raw := [], hunt := true } ∧
    p1AbsReader { buf := { buffer := [], pos := 0 }, raw := [], hunt := true } = Reader.init :=
  ⟨Nat.le_refl 0, rfl⟩

end Amshan.C05
