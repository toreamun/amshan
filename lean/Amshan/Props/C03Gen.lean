import Amshan.Lemmas.GenCodeFcs
/-
  C03 (tie by translation) — the function bodies of han/fastframecheck.py, mechanically translated from the current
  source (Amshan/GeneratedCodeFcs.lean), equal the hand-written model the C03 theorems are about: for these functions
  the tie between model and code is kernel-checked, not sampled.
-/
namespace Amshan.C03
open Amshan.Gen Amshan.GenCode

/-- the table generator of the source produces exactly the table read from the imported module -/
theorem gen_table : computeFcsTable = fcsTable := by
  exact GenLemmas.computeFcsTable_eq

theorem gen_next (crc byte : Nat) : fcsNext crc byte = Fcs.next crc byte := by
  exact GenLemmas.fcsNext_eq crc byte

theorem gen_checksum (r : Nat) : fcsChecksum r = Fcs.checksum r := by
  exact GenLemmas.fcsChecksum_eq r

theorem gen_isGood (r : Nat) : fcsIsGood r = Fcs.isGood r := by
  exact GenLemmas.fcsIsGood_eq r

/-- inside the data (where Python's `data[i]` does not raise) -/
theorem gen_computeChecksum (data : List Nat) (start len : Nat) (h : start + len ≤ data.length) :
    Fcs.computeChecksum data start len = .ok (fcsComputeChecksum data start len) := by
  exact GenLemmas.fcsComputeChecksum_eq data start len h

end Amshan.C03
