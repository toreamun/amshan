import Amshan.Props.C15
import Amshan.Props.C09Witness
/-
  C15 — non-vacuity witnesses.  Two theorems of Props/C15.lean carry hypotheses:
  `p1_parse_linear` (`parseContent data = .ok (items, iters)`) and `kamstrup_greedy_count`
  (`Kamstrup.greedy (s.length + 1) s = .ok es r`).  The unconditional ones are instantiated on the inputs the
  property names (unbalanced parentheses, trailing garbage, junk bytes, every remembered decoder).
-/
namespace Amshan.C15.Witness
set_option linter.defProp false
open Amshan.Gen Amshan.Cosem Amshan.Dec

def s (x : String) : List Nat := x.toList.map Char.toNat

/-! ### `p1_parse_linear` -/

def text : List Nat := s "1-0:1.8.0(00001605.055*kWh)\r\n1-0:99.97.0(5)(0-0:96.7.19)(170520130938S)\r\n0-0:96.13.1()\r\n"

def parsed : List P1Parse.DataSet × Nat :=
  match P1Parse.parseContent text with | .ok x => x | .error _ => ([], 0)

example : P1Parse.parseContent text = .ok parsed ∧ parsed.1.length = 3 ∧ parsed.2 = 8 ∧
    parsed.2 ≤ 2 * text.length + 2 := by
  -- one evaluation for the three facts: the kernel keeps what it has computed only within one check
  obtain ⟨h, h1, h2⟩ : P1Parse.parseContent text = .ok parsed ∧ parsed.1.length = 3 ∧ parsed.2 = 8 := by
    decide +kernel
  -- the pair is taken apart by a rewrite: left to the unifier, `parsed` is unfolded and the parser run
  exact ⟨h, h1, h2, p1_parse_linear text parsed.1 parsed.2 (by rw [Prod.mk.eta]; exact h)⟩

/-- the inputs of defect D7 (unbalanced parenthesis, trailing garbage): the parser ends with ValueError — the
    theorem `p1_parse_terminates` (no hypothesis) excludes only the fuel error -/
example : P1Parse.parseContent (s "1.7.0(123") = .error .valueError ∧
    P1Parse.parseContent (s "1-0:1.7.0(0006.000*kW)garbage\r\n") = .error .valueError ∧
    P1Parse.parseContent (s "1.7.0(1)(((\r\n") = .error .valueError := by
  decide +kernel

/-! ### `kamstrup_greedy_count` — the elements of the real Kamstrup list (after the two octets `02 23`) -/

def kamElems : List Nat := (encKamList_tail)
where encKamList_tail := (ListSpec.encKamList C09.Witness.real).drop 2

def greedyRes : List Kamstrup.Element × List Nat :=
  match Kamstrup.greedy (kamElems.length + 1) kamElems with | .ok es r => (es, r) | _ => ([], [])

example : Kamstrup.greedy (kamElems.length + 1) kamElems = .ok greedyRes.1 greedyRes.2 ∧
    greedyRes.1.length = 14 ∧ greedyRes.2 = [] ∧ greedyRes.1.length ≤ kamElems.length := by
  obtain ⟨hok, h1, h2⟩ :
      (match Kamstrup.greedy (kamElems.length + 1) kamElems with | .ok _ _ => true | _ => false) = true ∧
      greedyRes.1.length = 14 ∧ greedyRes.2 = [] := by decide +kernel
  have h : Kamstrup.greedy (kamElems.length + 1) kamElems = .ok greedyRes.1 greedyRes.2 := by
    unfold greedyRes
    cases hh : Kamstrup.greedy (kamElems.length + 1) kamElems with
    | ok es r => rfl
    | soft => rw [hh] at hok; cases hok
    | explicit => rw [hh] at hok; cases hok
    | py e => rw [hh] at hok; cases hok
  exact ⟨h, h1, h2, kamstrup_greedy_count kamElems _ _ h⟩

/-! ### the unconditional theorems on the property's inputs: every remembered decoder × junk, truncated and
    mutated genuine messages -/

example : ∀ prev ∈ [none, some 0, some 1, some 2, some 3, some 4, some 5, some 6],
    ∀ p ∈ [[1, 2, 3, 4, 5], (ListSpec.encKamList C09.Witness.real).take 40,
           (ListSpec.encKamList C09.Witness.real).set 3 0x09, s "1.7.0(123"],
    ∃ r, stepPayload prev p = .ok r :=
  fun prev _ p _ => no_escape_payload prev p

end Amshan.C15.Witness
