import Amshan.Props.C09
import Amshan.Props.C09Final
/-
  C09 — non-vacuity witnesses on the REAL Kamstrup hourly list of tests/test_kamstrup.py
  (NOTIFICATION_BODY_NO_LIST_2_SINGLE_PHASE_REAL_SAMPLE: list version "Kamstrup_V0001", 13 OBIS-tagged elements,
  four null-data octets of padding after the current and after the voltage, a clock element, non-zero
  registers) with its real header (untagged APDU date-time), plus the same list from a current-transformer
  meter (type number beginning with 685).  `ScaledCorrect` is the theorem `C09.scaledCorrect`.
-/
namespace Amshan.C09.Witness
set_option linter.defProp false
open Amshan.Gen Amshan.Cosem Amshan.ListSpec

def hexVal (c : Char) : Nat :=
  if c.isDigit then c.toNat - 48 else if c.toNat ≥ 97 then c.toNat - 87 else c.toNat - 55

def unhex (x : String) : List Nat :=
  let rec go : List Char → List Nat
    | a :: b :: r => (hexVal a * 16 + hexVal b) :: go r
    | _ => []
  go (x.toList.filter (· != ' '))

def s (x : String) : List Nat := x.toList.map Char.toNat

instance (v : KamVal) : Decidable v.WF := by cases v <;> unfold KamVal.WF <;> infer_instance
instance (e : KamElem) : Decidable e.WF := by
  unfold KamElem.WF; cases e.value <;> infer_instance
instance (l : KamList) : Decidable l.WF := by unfold KamList.WF; infer_instance
instance (h : Header) : Decidable h.WF := by unfold Header.WF; cases h.clock <;> infer_instance

/-- 2021-11-24 (Wednesday) 00:00:25 -/
def clk : DateTimeDesc := ⟨2021, 11, 24, 3, 0, 0, 25, none, none, 0⟩

def elems (meterType : String) : List KamElem := [
  ⟨[1, 1, 0, 0, 5, 255], .text (s "5705705705705702"), 0⟩,
  ⟨[1, 1, 96, 1, 1, 255], .text (s meterType), 0⟩,
  ⟨[1, 1, 1, 7, 0, 255], .u32 0x2742, 0⟩, ⟨[1, 1, 2, 7, 0, 255], .u32 0, 0⟩, ⟨[1, 1, 3, 7, 0, 255], .u32 0, 0⟩,
  ⟨[1, 1, 4, 7, 0, 255], .u32 0x117, 0⟩,
  ⟨[1, 1, 31, 7, 0, 255], .u32 0x11A0, 4⟩,
  ⟨[1, 1, 32, 7, 0, 255], .u16 0xDF, 4⟩,
  ⟨[0, 1, 1, 0, 0, 255], .clock clk, 0⟩,
  ⟨[1, 1, 1, 8, 0, 255], .u32 0x762EE2, 0⟩, ⟨[1, 1, 2, 8, 0, 255], .u32 0, 0⟩, ⟨[1, 1, 3, 8, 0, 255], .u32 0x35A3, 0⟩,
  ⟨[1, 1, 4, 8, 0, 255], .u32 0x116B53, 0⟩]

/-- the captured list (meter type 6861111BN242101040: not a CT meter) -/
def real : KamList := ⟨0x23, s "Kamstrup_V0001", 0, elems "6861111BN242101040"⟩
/-- the same list from a current-transformer meter -/
def ct : KamList := ⟨0x23, s "Kamstrup_V0001", 0, elems "6851121BN243101040"⟩

example : encKamList real = ["0223", "0a0e 4b616d73747275705f5630303031",
    "0906 0101000005ff  0a10 35373035373035373035373035373032",
    "0906 0101600101ff  0a12 36383631313131424e323432313031303430",
    "0906 0101010700ff  06 00002742", "0906 0101020700ff  06 00000000", "0906 0101030700ff  06 00000000",
    "0906 0101040700ff  06 00000117", "0906 01011f0700ff  06 000011a000000000", "0906 0101200700ff  12 00df00000000",
    "0906 0001010000ff  090c 07e50b1803000019ff800000", "0906 0101010800ff  06 00762ee2",
    "0906 0101020800ff  06 00000000", "0906 0101030800ff  06 000035a3", "0906 0101040800ff  06 00116b53"].flatMap unhex := by
  decide +kernel

/-! ### `kamstrup_body(_final)` : `ScaledCorrect`, `l.WF` -/

def wfReal : real.WF := by decide +kernel
def wfCt : ct.WF := by decide +kernel

example : Kamstrup.decodeBody (encKamList real) = .dict (kamExpected real) ∧
    Kamstrup.decodeBody (encKamList ct) = .dict (kamExpected ct) :=
  ⟨kamstrup_body scaledCorrect real wfReal, kamstrup_body_final ct wfCt⟩

/-- current = register/100 (0x11A0 = 4512 → 45.12 A), energy = register × 10, voltage and power unchanged,
    the clock element, texts verbatim -/
example : kamIsCt real = false ∧
    (kamExpected real).lookup "meter_manufacturer" = some (.str (s "Kamstrup")) ∧
    (kamExpected real).lookup "list_ver_id" = some (.str (s "Kamstrup_V0001")) ∧
    (kamExpected real).lookup "meter_type" = some (.str (s "6861111BN242101040")) ∧
    (kamExpected real).lookup "current_l1" = some (.flt (Flt.ofRat false 4512 100)) ∧
    (kamExpected real).lookup "voltage_l1" = some (.int 223) ∧
    (kamExpected real).lookup "active_power_import" = some (.int 10050) ∧
    (kamExpected real).lookup "active_power_import_total" = some (.int 77452500) ∧
    (kamExpected real).lookup "meter_datetime" = some (.dt ⟨2021, 11, 24, 0, 0, 25, 0, none⟩) ∧
    (kamExpected real).length = 15 := by
  decide +kernel

/-- CT meter: current = register/1000 -/
example : kamIsCt ct = true ∧ (kamExpected ct).lookup "current_l1" = some (.flt (Flt.ofRat false 4512 1000)) ∧
    (kamExpected ct).lookup "active_power_import_total" = some (.int 77452500) := by
  decide +kernel

/-! ### `kamstrup_frame(_final)` : additionally `hd.WF`, `hd.clock ≠ .null` -/

/-- E6 E7 00 0F 00000000 0C 07E5 0B 18 03 00 00 19 FF 8000 00 (untagged date-time), here with a clock that
    differs from the list's clock element by 5 s, to see which one wins -/
def clkH : DateTimeDesc := ⟨2021, 11, 24, 3, 0, 0, 30, none, none, 0⟩
def hdr : Header := ⟨[0xE6, 0xE7, 0x00], 0x0F, [0, 0, 0, 0], .untagged clkH⟩

example : encHeader hdr = unhex "e6e700 0f 00000000 0c07e50b180300001eff800000" := by decide +kernel

example : hdr.WF ∧ hdr.clock ≠ .null ∧
    Kamstrup.decodeFrame (encHeader hdr ++ encKamList real) =
      .dict ((kamExpected real).set "meter_datetime" (.dt (expectedDT clkH))) ∧
    ((kamExpected real).set "meter_datetime" (.dt (expectedDT clkH))).lookup "meter_datetime" =
      some (.dt ⟨2021, 11, 24, 0, 0, 30, 0, none⟩) :=
  ⟨by decide, by decide, kamstrup_frame_final hdr (by decide) (by decide) real wfReal, by decide +kernel⟩

/-! ### what `KamList.WF` excludes -/

/-- an element whose C.D.E the name table does not know (here 1.1.99.7.0.255) is outside the theorem
    (the decoder raises KeyError for it) -/
example : ¬ (KamElem.mk [1, 1, 99, 7, 0, 255] (.u32 1) 0).WF := by decide +kernel

end Amshan.C09.Witness
