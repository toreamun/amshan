import Amshan.Props.C01
import Amshan.Props.C03Detect
/-
  C01 — "no damaged frame is ever labelled valid", for damage of exactly one octet or confined to two
  neighbouring octets, at frame level: a frame object (as the reader builds it: `FrameInv`) whose
  octets differ in that way from those of a frame reported valid is reported NOT valid — any length,
  any position (format octets, addresses, control, HCS, information, the FCS itself).  Corollary of
  `valid_iff_intact` and of the bijectivity of the FCS step (`C03.one_octet_damage_detected`,
  `C03.two_adjacent_octets_damage_detected`).
-/
namespace Amshan.C01
open Amshan.Gen Amshan.Hdlc Amshan.HdlcSpec Amshan.Rfc1662

theorem intact_isGood (d : List Nat) (h : Octets d) (hi : Intact d) :
    Fcs.isGood (Fcs.feed fcsInit d) = true := by
  obtain ⟨_, m, t0, t1, e, h01⟩ := hi
  exact (isGood_iff_trailer d h (by rw [e, List.length_append]; exact Nat.le_add_left 2 _)).mpr
    ⟨m, t0, t1, e, h01⟩

theorem not_intact_of_detected {d d' : List Nat} (hd : Octets d) (hd' : Octets d')
    (hdet : Fcs.isGood (Fcs.feed fcsInit d) = true → Fcs.isGood (Fcs.feed fcsInit d') = false)
    (hi : Intact d) : ¬ Intact d' := by
  intro hi'
  have := hdet (intact_isGood d hd hi)
  rw [intact_isGood d' hd' hi'] at this
  cases this

theorem not_valid_of_not_intact {f g : Frame} (hf : FrameInv f) (hg : FrameInv g)
    (h : Intact f.data → ¬ Intact g.data) (hv : f.isValid = true) : g.isValid = false := by
  cases hgv : g.isValid with
  | false => rfl
  | true => exact absurd ((valid_iff_intact g hg).1 hgv) (h ((valid_iff_intact f hf).1 hv))

/-- **C01.** One damaged octet makes an intact octet string not intact. -/
theorem intact_one_octet_damage (p s : List Nat) (x y : Nat) (hp : Octets p) (hs : Octets s)
    (hx : x < 256) (hy : y < 256) (hne : x ≠ y) (hi : Intact (p ++ x :: s)) :
    ¬ Intact (p ++ y :: s) :=
  not_intact_of_detected (Octets_append.mpr ⟨hp, Octets_cons.mpr ⟨hx, hs⟩⟩)
    (Octets_append.mpr ⟨hp, Octets_cons.mpr ⟨hy, hs⟩⟩)
    (C03.one_octet_damage_detected p s x y hp hs hx hy hne) hi

/-- **C01 (frame level).** A frame object whose octets are those of a valid frame with exactly one
    octet changed is not reported valid. -/
theorem one_octet_damage_not_valid (f g : Frame) (hf : FrameInv f) (hg : FrameInv g)
    (p s : List Nat) (x y : Nat) (ef : f.data = p ++ x :: s) (eg : g.data = p ++ y :: s)
    (hne : x ≠ y) (hv : f.isValid = true) : g.isValid = false := by
  obtain ⟨hp, hxs⟩ := Octets_append.mp (ef ▸ hf.2.2)
  obtain ⟨hx, hs⟩ := Octets_cons.mp hxs
  have hy := (Octets_cons.mp (Octets_append.mp (eg ▸ hg.2.2)).2).1
  refine not_valid_of_not_intact hf hg ?_ hv
  rw [ef, eg]
  exact intact_one_octet_damage p s x y hp hs hx hy hne

/-- **C01.** Damage confined to two neighbouring octets makes an intact octet string not intact. -/
theorem intact_two_adjacent_octets_damage (p s : List Nat) (x1 x2 y1 y2 : Nat) (hp : Octets p)
    (hs : Octets s) (hx1 : x1 < 256) (hx2 : x2 < 256) (hy1 : y1 < 256) (hy2 : y2 < 256)
    (hne : ¬ (x1 = y1 ∧ x2 = y2)) (hi : Intact (p ++ x1 :: x2 :: s)) :
    ¬ Intact (p ++ y1 :: y2 :: s) :=
  not_intact_of_detected (Octets_append.mpr ⟨hp, Octets_cons.mpr ⟨hx1, Octets_cons.mpr ⟨hx2, hs⟩⟩⟩)
    (Octets_append.mpr ⟨hp, Octets_cons.mpr ⟨hy1, Octets_cons.mpr ⟨hy2, hs⟩⟩⟩)
    (C03.two_adjacent_octets_damage_detected p s x1 x2 y1 y2 hp hs hx1 hx2 hy1 hy2 hne) hi

/-- **C01 (frame level).** A frame object whose octets are those of a valid frame with damage confined to
    two neighbouring octets is not reported valid. -/
theorem two_adjacent_octets_damage_not_valid (f g : Frame) (hf : FrameInv f) (hg : FrameInv g)
    (p s : List Nat) (x1 x2 y1 y2 : Nat) (ef : f.data = p ++ x1 :: x2 :: s)
    (eg : g.data = p ++ y1 :: y2 :: s) (hne : ¬ (x1 = y1 ∧ x2 = y2)) (hv : f.isValid = true) :
    g.isValid = false := by
  obtain ⟨hp, hxs⟩ := Octets_append.mp (ef ▸ hf.2.2)
  obtain ⟨hx1, hxs⟩ := Octets_cons.mp hxs
  obtain ⟨hx2, hs⟩ := Octets_cons.mp hxs
  obtain ⟨hy1, hys⟩ := Octets_cons.mp (Octets_append.mp (eg ▸ hg.2.2)).2
  refine not_valid_of_not_intact hf hg ?_ hv
  rw [ef, eg]
  exact intact_two_adjacent_octets_damage p s x1 x2 y1 y2 hp hs hx1 hx2 hy1 (Octets_cons.mp hys).1 hne

end Amshan.C01
