import Amshan.Lemmas.HdlcBound
import Amshan.Lemmas.HdlcReadLevel
/-
  C19 (HDLC part) — the memory retained by the reader after a read() call is bounded by a constant,
  independently of how many bytes have been fed before, for every stream.
  `Reader.size` = octets in the input buffer (including consumed ones not yet trimmed)
                + octets of the raw-frame history + octets of the frame under construction.
-/
namespace Amshan.C19
open Amshan.Gen Amshan.Hdlc

theorem hdlc_reachable_bounded (cfg : Cfg) (r : Reader) (hr : Reachable cfg r) :
    r.size ≤ 3 * maxFrameLen + 1 := by
  rw [Reader.size_of_buf_empty r hr.buf_empty]
  exact Bnd_size hr.bnd

/-- **C19 (HDLC).** After any history of `read()` calls and one more call with any chunk, the reader
    holds at most three maximum-size frames plus one octet — the chunk itself is not retained. -/
theorem hdlc_bounded (cfg : Cfg) (r : Reader) (hr : Reachable cfg r) (chunk : List Nat) :
    (read cfg r chunk).1.size ≤ 3 * maxFrameLen + 1 :=
  hdlc_reachable_bounded cfg _ (hr.readAll [chunk])

/-- the frame under construction never exceeds the maximum frame length between octets -/
theorem hdlc_frame_bounded (cfg : Cfg) (inp : List Nat) :
    match (run cfg Core.init inp).1.frame with
    | some f => f.len ≤ maxFrameLen
    | none => True := by
  have h : Bnd (run cfg Core.init inp).1 := Bnd_run cfg Core.init inp Bnd_init
  cases hf : (run cfg Core.init inp).1.frame with
  | none => trivial
  | some f => exact (BndBy_some h hf).1

/-- the constant of the bound -/
example : maxFrameLen = 2047 := by decide

end Amshan.C19
