import Amshan.Lemmas.P1CleanResync
/-
  C16 (P1 part) — after arbitrary bytes the P1 reader delivers every subsequent well-formed
  readout except possibly the first, for every splitting into read() calls.
-/
namespace Amshan.C16
open Amshan.Gen Amshan.P1 Amshan.P1Spec

theorem p1_resync (pre : List Nat) (hpre : Octets pre) (ds : List ReadoutDesc)
    (chunks : List (List Nat))
    (hds : ∀ d ∈ ds, d.WF ∧ d.encode.length ≤ p1Guard)
    (hch : chunks.flatten = pre ++ ds.flatMap ReadoutDesc.encode) :
    ∃ r outs junk, readAll Reader.init chunks = .ok (r, outs) ∧
      outs.flatten = junk ++ ds.tail.map expectedReadout :=
  have _ := hpre   -- not needed: the reader tests `< 128` on arbitrary numbers
  resync pre ds chunks hds hch

end Amshan.C16
