import Amshan.Props.C01
import Amshan.Props.C01Framing
/-
  C01 — non-vacuity witnesses: every hypothesis-carrying theorem of Props/C01*.lean is instantiated
  on a REAL frame (tests/test_hdlc.py FRAME_WITH_FLAG_SEQUENCE_CHARACTER_IN_INFO: a Kaifa list-1 push,
  39 octets, one-octet destination 01, two-octet source 02 01, control 10, HCS 5A 87, a flag octet
  7E inside the information field, FCS EA 5E), on a bit-flipped copy and on a copy with a wrong length
  field.  Only `example`s (no obligations are added).
-/
namespace Amshan.C01.Witness
set_option linter.defProp false
open Amshan.Gen Amshan.Hdlc Amshan.HdlcSpec

/-- information field of the real frame (LLC E6 E7 00, APDU 0F 40000000, date-time, list 02 01 06 0000157E) -/
def info : List Nat :=
  [0xE6, 0xE7, 0x00, 0x0F, 0x40, 0x00, 0x00, 0x00, 0x09, 0x0C, 0x07, 0xE4, 0x02, 0x0F, 0x06, 0x01, 0x19,
   0x22, 0xFF, 0x80, 0x00, 0x00, 0x02, 0x01, 0x06, 0x00, 0x00, 0x15, 0x7E]

/-- the 39 octets between the flags -/
def octets : List Nat := [0xA0, 0x27, 0x01, 0x02, 0x01, 0x10, 0x5A, 0x87] ++ info ++ [0xEA, 0x5E]

/-- noise, opening flag, frame, closing flag -/
def stream : List Nat := [0xC3, 0x11] ++ [0x7E] ++ octets ++ [0x7E]

/-- stuffing off (a flag in the information field is data), abort detection on -/
def cfg : Cfg := ⟨false, true⟩

/-- the frame object the reader builds from a list of octets -/
def frameOf (bs : List Nat) : Frame := bs.foldl Frame.append Frame.empty

def good : Frame := frameOf octets
/-- one bit flipped in the information field (… 15 7E → … 14 7E) -/
def flipped : Frame := frameOf (octets.set 35 0x14)
/-- length field 0x28 instead of 0x27, FCS recomputed so that ONLY the length is wrong -/
def wrongLen : Frame :=
  frameOf ([0xA0, 0x28, 0x01, 0x02, 0x01, 0x10] ++ fcsLE [0xA0, 0x28, 0x01, 0x02, 0x01, 0x10] ++ info ++
    fcsLE ([0xA0, 0x28, 0x01, 0x02, 0x01, 0x10] ++ fcsLE [0xA0, 0x28, 0x01, 0x02, 0x01, 0x10] ++ info))

/-! ### `run_frames_inv` : hypotheses `CoreInv c`, `Octets inp` -/

/-- the reader run over the real stream, once for the two examples that speak of it -/
def run_stream : (run cfg Core.init stream).2 = [good] := by decide +kernel

/-- from a new reader, on the real stream: the hypotheses hold, exactly the real frame comes out and it
    satisfies the invariant -/
example : CoreInv Core.init ∧ Octets stream ∧ (run cfg Core.init stream).2 = [good] ∧ FrameInv good := by
  refine ⟨init_inv, by decide, run_stream, ?_⟩
  have := (run_frames_inv cfg Core.init stream init_inv (by decide)).1 good
  rw [run_stream] at this
  exact this (List.mem_singleton.2 rfl)

/-- from a state in the middle of a frame (not the initial one): the reader has eaten the noise, the
    flag and the first nine octets; `CoreInv` holds there, and the rest of the stream completes the frame -/
example : let c := (run cfg Core.init (stream.take 12)).1
    c.frame.isSome = true ∧ CoreInv c ∧ Octets (stream.drop 12) ∧ (run cfg c (stream.drop 12)).2 = [good] := by
  refine ⟨by decide +kernel, (run_frames_inv cfg Core.init (stream.take 12) init_inv (by decide)).2,
    by decide, by decide +kernel⟩

/-! ### `valid_iff_intact` : hypothesis `FrameInv f` — both directions are exercised -/

def good_inv : FrameInv good := ⟨by decide +kernel, by decide +kernel, by decide +kernel⟩
def flipped_inv : FrameInv flipped := ⟨by decide +kernel, by decide +kernel, by decide +kernel⟩
def wrongLen_inv : FrameInv wrongLen := ⟨by decide +kernel, by decide +kernel, by decide +kernel⟩

def good_valid : good.isValid = true := by decide +kernel

/-- the real frame: reported valid, hence intact (length field 0x27 = 39 octets, trailer EA 5E = FCS) -/
example : good.isValid = true ∧ Intact good.data :=
  ⟨good_valid, (valid_iff_intact good good_inv).1 good_valid⟩

/-- one flipped bit: the invariant still holds (the theorem applies), the frame is reported invalid,
    hence it is not intact -/
example : flipped.isValid = false ∧ ¬ Intact flipped.data := by
  have hv : flipped.isValid = false := by decide +kernel
  exact ⟨hv, fun hi => by rw [(valid_iff_intact flipped flipped_inv).2 hi] at hv; cases hv⟩

/-- good FCS but wrong length field: invalid, not intact (the conjunction is really a conjunction) -/
example : wrongLen.isGoodFfc = true ∧ wrongLen.isValid = false ∧ ¬ Intact wrongLen.data := by
  -- one evaluation for both facts: the kernel keeps what it has computed only within one check
  obtain ⟨hg, hv⟩ : wrongLen.isGoodFfc = true ∧ wrongLen.isValid = false := by decide +kernel
  exact ⟨hg, hv, fun hi => by rw [(valid_iff_intact wrongLen wrongLen_inv).2 hi] at hv; cases hv⟩

/-! ### `header_shape` : hypotheses `FrameInv f`, `f.hcs.isSome` -/

example : FrameInv good ∧ good.hcs.isSome = true ∧
    ∃ a b dst src ctl h1 h2 rest,
      good.data = [a, b] ++ dst ++ src ++ [ctl, h1, h2] ++ rest ∧ addrWF dst = true ∧ addrWF src = true :=
  ⟨good_inv, by decide +kernel, header_shape good good_inv (by decide +kernel)⟩

/-! ### `accessors_exact` : hypotheses `FrameInv f`, the decomposition, two well-formed addresses -/

def good_shape : good.data = [0xA0, 0x27] ++ [0x01] ++ [0x02, 0x01] ++ [0x10, 0x5A, 0x87] ++ (info ++ [0xEA, 0x5E]) := by
  decide +kernel

/-- all hypotheses hold for the real frame, and the conclusion gives the real field values -/
example : addrWF [0x01] = true ∧ addrWF [0x02, 0x01] = true ∧
    good.dest = some [0x01] ∧ good.src = some [0x02, 0x01] ∧ good.control = some 0x10 ∧
    good.hcs = some 0x5A87 ∧ good.frameLength = some 39 ∧ good.formatType = some 10 ∧
    good.payload = some info ∧ good.fcsField = some 0xEA5E := by
  obtain ⟨h1, h2, h3, h4, _, h6, h7, _, _, h10⟩ :=
    accessors_exact good good_inv 0xA0 0x27 [0x01] [0x02, 0x01] 0x10 0x5A 0x87 (info ++ [0xEA, 0x5E])
      good_shape (by decide) (by decide)
  obtain ⟨hp, hf⟩ := h10 info 0xEA 0x5E rfl
  exact ⟨by decide, by decide, h1, h2, h3, h4, h6, h7, hp, hf⟩

/-- four-octet destination address (00 02 04 07), header-only frame: the `rest = []` branch -/
example : let f := frameOf ([0xA0, 0x0A, 0x00, 0x02, 0x04, 0x07, 0x21, 0x13] ++
      fcsLE [0xA0, 0x0A, 0x00, 0x02, 0x04, 0x07, 0x21, 0x13])
    FrameInv f ∧ f.isValid = true ∧ f.dest = some [0x00, 0x02, 0x04, 0x07] ∧ f.src = some [0x21] ∧
      f.control = some 0x13 ∧ f.payload = none := by
  intro f
  obtain ⟨hinv, hv⟩ : (f.crc = Fcs.feed fcsInit f.data ∧ f.ctlPos = controlPos f.data ∧ Octets f.data) ∧
      f.isValid = true := by decide +kernel
  obtain ⟨h1, h2, h3, _, _, _, _, h8, _, _⟩ :=
    accessors_exact f hinv 0xA0 0x0A [0x00, 0x02, 0x04, 0x07] [0x21] 0x13
      (Rfc1662.fcs16 [0xA0, 0x0A, 0x00, 0x02, 0x04, 0x07, 0x21, 0x13] % 256)
      (Rfc1662.fcs16 [0xA0, 0x0A, 0x00, 0x02, 0x04, 0x07, 0x21, 0x13] / 256) []
      (by decide +kernel) (by decide) (by decide)
  exact ⟨hinv, hv, h1, h2, h3, (h8 rfl).1⟩

/-! ### `returned_has_hcs`, `framing` have no hypotheses; instantiated for illustration -/

example : ∃ segs, Carve stream segs ∧ [good.data] = segs.map (decode cfg.stuffing) := by
  have h := framing cfg stream
  rwa [run_stream] at h

end Amshan.C01.Witness
