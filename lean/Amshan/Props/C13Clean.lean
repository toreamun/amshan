import Amshan.Lemmas.ProtoClean
import Amshan.Props.C05
/-
  C13 (clean-stream part) — on a clean stream of HDLC frames or P1 readouts (in the domains of C02 and
  C05) the payload queue receives every message's non-empty payload.  With two candidates this holds in
  either order provided the OTHER candidate reports no valid message on that stream (`Quiet`,
  `quiet_candidate_irrelevant`): an HDLC payload may legally embed a complete P1 readout, so the sentence
  is not unconditional.  It is written out for HDLC streams (`clean_hdlc_two_candidates`); `clean_p1` is
  the single-candidate statement, and `hdlc_quiet_without_flag` says when the HDLC candidate is quiet.
-/
namespace Amshan.C13
open Amshan.Proto Amshan.ProtoSpec Amshan.Hdlc Amshan.HdlcSpec Amshan.P1Spec

/-- a candidate that reports no valid message on this chunk sequence -/
def Quiet (r : Rd) (chunks : List (List Nat)) : Prop := ∀ m ∈ (r.feedAll chunks).flatten, m.valid = false

/-- generic: a quiet candidate, before or after the other one in the list, changes nothing -/
theorem quiet_candidate_irrelevant (k : Kind) (a q : Rd) (chunks : List (List Nat)) (hq : Quiet q chunks) :
    (runAll k (State.init [a, q]) chunks).2 = (runAll k (State.init [a]) chunks).2 ∧
    (runAll k (State.init [q, a]) chunks).2 = (runAll k (State.init [a]) chunks).2 :=
  ⟨runAll_quiet k [a] [] q chunks hq, runAll_quiet k [] [a] q chunks hq⟩

theorem hdlcRd_feedAll (cfg : Cfg) (chunks : List (List Nat)) :
    ((hdlcRd cfg).feedAll chunks).flatten = (readAll cfg Reader.init chunks).2.flatten.map frameMsg :=
  hdlcRd_feedAll_flatten cfg chunks

/-- **C13 (clean HDLC stream).** Every frame's non-empty payload is enqueued, in order, exactly once. -/
theorem clean_hdlc (cfg : Cfg) (noise : List Nat) (fs : List (FrameDesc × Nat)) (closing : Nat)
    (chunks : List (List Nat))
    (hnoise : Octets noise ∧ flag ∉ noise)
    (hfs : ∀ p ∈ fs, p.1.WF ∧ 1 ≤ p.2 ∧ InDomain cfg.stuffing cfg.abort p.1)
    (hcl : 1 ≤ closing)
    (hch : chunks.flatten = wire cfg.stuffing noise fs closing) :
    (runAll Kind.payload (State.init [hdlcRd cfg]) chunks).2 =
      (fs.filterMap fun p => if p.1.info.isEmpty then none else some (Item.payload p.1.info)) := by
  have hstream : ((hdlcRd cfg).feedAll chunks).flatten = fs.map (fun p => frameMsg (expectedFrame p.1)) := by
    rw [hdlcRd_feedAll, Amshan.C02.clean_stream_delivered cfg noise fs closing chunks hnoise hfs hcl hch,
      List.map_map]
    rfl
  exact single_candidate_stream (hdlcRd cfg) chunks fs _ _ hstream
    (fun p hp => goodPayload_expectedFrame p.1 (hfs p hp).1)

/-- …whichever candidate order is used, when the P1 candidate is quiet on the stream -/
theorem clean_hdlc_two_candidates (cfg : Cfg) (noise : List Nat) (fs : List (FrameDesc × Nat)) (closing : Nat)
    (chunks : List (List Nat))
    (hnoise : Octets noise ∧ flag ∉ noise)
    (hfs : ∀ p ∈ fs, p.1.WF ∧ 1 ≤ p.2 ∧ InDomain cfg.stuffing cfg.abort p.1)
    (hcl : 1 ≤ closing)
    (hch : chunks.flatten = wire cfg.stuffing noise fs closing) (hq : Quiet p1Rd chunks) :
    (runAll Kind.payload (State.init [hdlcRd cfg, p1Rd]) chunks).2 =
      (fs.filterMap fun p => if p.1.info.isEmpty then none else some (Item.payload p.1.info)) ∧
    (runAll Kind.payload (State.init [p1Rd, hdlcRd cfg]) chunks).2 =
      (fs.filterMap fun p => if p.1.info.isEmpty then none else some (Item.payload p.1.info)) := by
  obtain ⟨h1, h2⟩ := quiet_candidate_irrelevant Kind.payload (hdlcRd cfg) p1Rd chunks hq
  rw [h1, h2]
  exact ⟨clean_hdlc cfg noise fs closing chunks hnoise hfs hcl hch,
    clean_hdlc cfg noise fs closing chunks hnoise hfs hcl hch⟩

/-- **C13 (clean P1 stream).** Every readout's non-empty payload is enqueued, in order, exactly once. -/
theorem clean_p1 (tail : List Nat) (ds : List ReadoutDesc) (chunks : List (List Nat))
    (htail : Octets tail ∧ Amshan.Gen.p1Start ∉ tail)
    (hds : ∀ d ∈ ds, d.WF ∧ d.encode.length ≤ Amshan.Gen.p1Guard)
    (hch : chunks.flatten = tail ++ ds.flatMap ReadoutDesc.encode) :
    (runAll Kind.payload (State.init [p1Rd]) chunks).2 =
      (ds.filterMap fun d => if d.payload.isEmpty then none else some (Item.payload d.payload)) := by
  obtain ⟨r, outs, hr, ho⟩ := Amshan.C05.p1_clean_delivered tail ds chunks htail hds hch
  have hstream : (p1Rd.feedAll chunks).flatten = ds.map (fun d => readoutMsg (Amshan.P1.expectedReadout d)) := by
    rw [p1Rd_feedAll_flatten r chunks outs hr, ho, List.map_map]
    rfl
  exact single_candidate_stream p1Rd chunks ds _ _ hstream
    (fun d hd => goodPayload_expectedReadout d (hds d hd).1)

/-- a stream without the HDLC flag octet ('~'), a P1 stream for one, keeps every HDLC candidate quiet -/
theorem hdlc_quiet_without_flag (cfg : Cfg) (chunks : List (List Nat)) (h : Amshan.Gen.flagOctet ∉ chunks.flatten) :
    Quiet (hdlcRd cfg) chunks := by
  intro m hm
  rw [hdlcRd_noflag cfg chunks h] at hm
  cases hm

end Amshan.C13
