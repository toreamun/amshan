import Amshan.Lemmas.P1Handle
/-
  Memory bounds of the P1 reader model (C19, P1 part).
-/
namespace Amshan.P1
open Amshan.Gen Amshan.Py

theorem read_bounds (r : Reader) (chunk : List Nat) (r' : Reader) (outs : List Readout)
    (h : read r chunk = .ok (r', outs)) :
    r'.size ≤ 2 * p1Guard + 2 * chunk.length ∧
      r'.buf.inp.length + r'.raw.length ≤ p1Guard + chunk.length := by
  -- whatever buffer the loop starts with: nothing consumed, pending data within guard + chunk
  have key : ∀ (inp raw : List Nat) (hunt : Bool), read r chunk = loop ⟨0, inp⟩ raw hunt [] →
      inp.length + raw.length ≤ p1Guard + chunk.length →
      r'.size ≤ 2 * p1Guard + 2 * chunk.length ∧
        r'.buf.inp.length + r'.raw.length ≤ p1Guard + chunk.length := by
    intro inp raw hunt hrd hle
    rw [hrd] at h
    have hb : r'.buf.consumed + r'.buf.inp.length = 0 + inp.length ∧
        r'.raw.length + 0 ≤ raw.length + r'.buf.consumed := loop_bound _ _ _ _ _ _ h
    simp only [Reader.size, Buf.size]
    omega
  by_cases hov : r.buf.inp.length + r.raw.length > p1Guard
  · have := length_dropWhile_le notStart chunk
    exact key _ _ _ (read_over r chunk hov) (by simp only [List.length_nil]; omega)
  · cases hh : r.hunt with
    | true =>
      have := length_dropWhile_le notStart (r.buf.inp ++ chunk)
      rw [List.length_append] at this
      exact key _ _ _ (read_hunt r chunk (by omega) hh) (by omega)
    | false =>
      exact key _ _ _ (read_nohunt r chunk (by omega) hh) (by rw [List.length_append]; omega)

/-! ### the size is not bounded by `p1Guard + 2 * chunk.length` -/

def cexHead : List Nat := [47, 65, 66, 67, 53, 13, 10]

def cexFill (n : Nat) : List Nat := List.replicate (n + 1) 97

def cexReader (n : Nat) : Reader :=
  { buf := { consumed := 7, inp := cexFill n }, raw := cexHead, hunt := false }

theorem cexFill_noLf (n : Nat) : 10 ∉ cexFill n := fun h => by
  have := List.eq_of_mem_replicate h
  omega

theorem cex_reachable (n : Nat) : Reachable (cexReader n) := by
  refine ⟨[cexHead ++ cexFill n], [[]], ?_⟩
  have h0 : read Reader.init (cexHead ++ cexFill n)
      = loop ⟨0, [47, 65, 66, 67, 53, 13] ++ 10 :: cexFill n⟩ [] true [] := rfl
  have h2 : handleLine [] true ([47, 65, 66, 67, 53, 13] ++ [10]) = .ok (cexHead, false, none) := by
    decide
  simp only [readAll, h0, loop_line _ _ _ _ _ _ (by decide) _ _ _ h2,
    loop_nolf _ _ _ _ _ (cexFill_noLf n)]
  rfl

theorem cex_read (n : Nat) (hn : n + 8 ≤ p1Guard) : read (cexReader n) [p1Lf] =
    .ok ({ buf := { consumed := n + 2, inp := [] }, raw := cexHead ++ (cexFill n ++ [p1Lf]),
           hunt := false }, []) := by
  have hlen : (cexFill n).length = n + 1 := List.length_replicate
  have h0 : read (cexReader n) [p1Lf] = loop ⟨0, cexFill n ++ 10 :: []⟩ cexHead false [] :=
    read_nohunt _ _ (by simp only [cexReader, hlen, cexHead, List.length_cons, List.length_nil]; omega) rfl
  have h2 : handleLine cexHead false (cexFill n ++ [10])
      = .ok (cexHead ++ (cexFill n ++ [p1Lf]), false, none) := by
    simp only [cexFill, List.replicate_succ, List.cons_append]
    exact handleLine_data _ _ _ (by decide)
  rw [h0, loop_line _ _ _ _ _ _ (cexFill_noLf n) _ _ _ h2, loop_nolf _ _ _ _ _ (by simp), hlen]
  simp only [Option.toList, List.append_nil, Nat.zero_add]

theorem cex_size (n : Nat) :
    Reader.size { buf := { consumed := n + 2, inp := [] }, raw := cexHead ++ (cexFill n ++ [p1Lf]),
                  hunt := false } = 2 * n + 11 := by
  simp only [Reader.size, Buf.size, List.length_append, cexFill, List.length_replicate, cexHead,
    List.length_cons, List.length_nil]
  omega

/-- a reachable reader and a one-octet chunk after which `size` is `2 * p1Guard - 5` -/
theorem size_not_guard_plus_two_chunks :
    ∃ r chunk r' outs, Reachable r ∧ read r chunk = .ok (r', outs) ∧
      ¬ r'.size ≤ p1Guard + 2 * chunk.length := by
  refine ⟨_, _, _, _, cex_reachable (p1Guard - 8), cex_read (p1Guard - 8) (by decide), ?_⟩
  rw [cex_size]
  decide

end Amshan.P1
