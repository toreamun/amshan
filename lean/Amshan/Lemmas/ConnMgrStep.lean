import Amshan.Model.ConnMgr
import Amshan.Lemmas.BackOff
/-
  The transitions of `ConnMgr.next` one by one: `Step s l s'` has one constructor per path through
  connect_loop / _try_connect / close() between two suspensions, each with its guard on a few fields
  of `s`, and `s'` written as an update of `s`.  `next_step` and `step_next` say that `Step` is `next`;
  everything else argues over `Step`: an invariant is a case analysis in which a field that the
  constructor does not mention is, by definitional unfolding, the field of `s`.
-/
namespace Amshan.ConnMgr
open Amshan.BackOff

/-- nothing keeps the connect task from calling the factory: `_get_back_off_time()` was 0, or the
    `sleep()` timer has fired -/
def ready (s : S) : Prop :=
  (s.t = .created ∧ getBackOffTime s.backoff s.breaker = 0) ∨ ∃ u, s.t = .sleeping u ∧ u ≤ s.now

def running (s : S) : Prop := s.t = .created ∨ (∃ u, s.t = .sleeping u) ∨ s.t = .inFactory

theorem ready.running {s : S} (h : ready s) : running s :=
  h.elim (fun h => .inl h.1) fun ⟨u, h, _⟩ => .inr (.inl ⟨u, h⟩)

/-- the manager is still reconnecting: close() has not been called and connect_loop has not returned -/
def active (s : S) : Prop := s.closing = false ∧ s.lpc ≠ .exited

inductive Step (s : S) : Label → S → Prop
  /-- first step, `while not closing` fails: `closing.clear()`, return -/
  | startExit : s.lpc = .start → s.closing = true →
      Step s .lRun { s with closing := false, lpc := .exited, log := s.log ++ [(s.now, .loopDone)] }
  /-- first step: `create_task(_try_connect())`, `create_task(closing.wait())`, `await wait(…)` -/
  | startSpawn : s.lpc = .start → s.closing = false →
      Step s .lRun { s with t := .created, cancelReq := false, waiters := s.waiters + 1, lpc := .w1 }
  /-- the connect task is done and `_connection` is set: cancel the waiter, `await wait((done_task, closing_task2))` -/
  | connected (c : Nat) : s.lpc = .w1 → s.t = .finished → s.closing = false → s.conn = some c →
      Step s .lRun { s with waiters := s.waiters - 1 + 1, cancelReq := false, lpc := .w2 }
  /-- the connect task is done without a connection: next round of the `while` loop -/
  | retry : s.lpc = .w1 → s.t = .finished → s.closing = false → s.conn = none →
      Step s .lRun { s with waiters := s.waiters - 1 + 1, t := .created, cancelReq := false, lpc := .w1 }
  /-- woken by close(): `connect_task.cancel()`, the `while` condition fails, return -/
  | w1Exit : s.lpc = .w1 → s.closing = true → s.conn = none →
      Step s .lRun { s with waiters := s.waiters - 1, cancelReq := decide (s.t ≠ .finished), closing := false,
                            lpc := .exited, log := s.log ++ [(s.now, .loopDone)] }
  /-- the same when the factory returned after close(): `transport.close()` first ("Connected while closing") -/
  | w1CloseExit (c : Nat) : s.lpc = .w1 → s.closing = true → s.conn = some c →
      Step s .lRun { s with waiters := s.waiters - 1, cancelReq := decide (s.t ≠ .finished), closing := false,
                            lpc := .exited, conn := none, live := s.live.filter (· != c),
                            log := s.log ++ [(s.now, .closed c), (s.now, .loopDone)] }
  /-- woken from the second wait by close(): `_connection = None`, return -/
  | w2Exit : s.lpc = .w2 → s.closing = true →
      Step s .lRun { s with waiters := s.waiters - 1, conn := none, closing := false, lpc := .exited,
                            log := s.log ++ [(s.now, .loopDone)] }
  /-- woken by `protocol.done`: `_update_connection_lost_circuit_breaker()`, `_connection = None`, next round -/
  | lossSeen (c : Nat) : s.lpc = .w2 → s.closing = false → s.conn = some c → c ∈ s.doneSet →
      Step s .lRun { s with waiters := s.waiters - 1 + 1, breaker := s.breaker.update (s.now * 1000000),
                            conn := none, t := .created, cancelReq := false, lpc := .w1 }
  /-- `CancelledError` is delivered to the connect task at its next step -/
  | cancelled : s.cancelReq = true → running s →
      Step s .tRun { s with t := .finished, cancelReq := false }
  /-- `_try_connect`: `await sleep(_get_back_off_time())` -/
  | sleep : s.cancelReq = false → s.t = .created → 0 < getBackOffTime s.backoff s.breaker →
      Step s .tRun { s with t := .sleeping (s.now + getBackOffTime s.backoff s.breaker) }
  /-- `_try_connect` after the sleep, `if not closing` fails -/
  | giveUp : s.cancelReq = false → ready s → s.closing = true → Step s .tRun { s with t := .finished }
  /-- `_try_connect` after the sleep: `await self._connection_factory()` -/
  | attempt : s.cancelReq = false → ready s → s.closing = false →
      Step s .tRun { s with t := .inFactory, log := s.log ++ [(s.now, .attempt)] }
  /-- the factory returns: `_connection = …`, `back_off_connect_error.reset()` -/
  | factoryOk : s.t = .inFactory → s.cancelReq = false →
      Step s .factoryOk { s with conn := some s.nextId, live := s.live ++ [s.nextId], nextId := s.nextId + 1,
                                 backoff := s.backoff.reset, t := .finished,
                                 log := s.log ++ [(s.now, .obtained s.nextId)] }
  /-- the factory raises: `_connection = None`, `back_off_connect_error.failure()` -/
  | factoryFail : s.t = .inFactory → s.cancelReq = false →
      Step s .factoryFail { s with conn := none, backoff := s.backoff.failure, t := .finished,
                                   log := s.log ++ [(s.now, .failed)] }
  /-- the transport of the established connection dies: `protocol.done` is set -/
  | lose (c : Nat) : s.conn = some c → c ∈ s.live →
      Step s .lose { s with live := s.live.filter (· != c), doneSet := s.doneSet ++ [c],
                            log := s.log ++ [(s.now, .lost c)] }
  /-- close() while no live transport is held (`_connection` is None, or a connection already lost):
      `_is_closing.set()`, `_connection = None` -/
  | closeIdle : (∀ c, s.conn = some c → c ∉ s.live) →
      Step s .close { s with closing := true, conn := none, log := s.log ++ [(s.now, .closeCalled)] }
  /-- close() with a live connection: `transport.close()`, `_connection = None` -/
  | closeLive (c : Nat) : s.conn = some c → c ∈ s.live →
      Step s .close { s with closing := true, conn := none, live := s.live.filter (· != c),
                             log := s.log ++ [(s.now, .closeCalled), (s.now, .closed c)] }
  | tick (d : Nat) : Step s (.tick d) { s with now := s.now + d }

theorem afterSleep_step {s : S} (hc : s.cancelReq = false) (hr : ready s) : Step s .tRun (afterSleep s) := by
  rw [afterSleep]
  split
  · exact .giveUp hc hr ‹_›
  · exact .attempt hc hr (Bool.eq_false_iff.2 ‹_›)

theorem next_step {s s' : S} {l : Label} (h : next s l = some s') : Step s l s' := by
  obtain ⟨now, closing, conn, lpc, t, cancelReq, backoff, breaker, nextId, live, doneSet, waiters, log⟩ := s
  cases l with
  | lRun =>
    cases lpc with
    | start =>
      cases closing <;> simp [next, topLogic, S.emit] at h <;> subst h
      · exact .startSpawn rfl rfl
      · exact .startExit rfl rfl
    | w1 =>
      cases closing <;> cases conn
      · simp [next, topLogic] at h
        obtain ⟨ht, h⟩ := h; subst h; subst ht; exact .retry rfl rfl rfl rfl
      · simp [next] at h
        obtain ⟨ht, h⟩ := h; subst h; subst ht; exact .connected _ rfl rfl rfl rfl
      · simp only [next, Bool.or_true, if_true, topLogic, S.emit, Option.some.injEq] at h
        subst h; exact .w1Exit rfl rfl rfl
      · simp only [next, Bool.or_true, if_true, topLogic, S.emit, closeTransport, Option.some.injEq,
          List.append_assoc, List.cons_append, List.nil_append] at h
        subst h; exact .w1CloseExit _ rfl rfl rfl
    | w2 =>
      cases closing <;> cases conn <;> simp [next, topLogic, S.emit] at h
      · obtain ⟨hd, h⟩ := h; subst h; exact .lossSeen _ rfl rfl rfl hd
      · subst h; exact .w2Exit rfl rfl
      · subst h; exact .w2Exit rfl rfl
    | exited => simp [next] at h
  | tRun =>
    cases cancelReq with
    | true =>
      cases t <;> simp [next] at h <;> subst h
      · exact .cancelled rfl (.inl rfl)
      · exact .cancelled rfl (.inr (.inl ⟨_, rfl⟩))
      · exact .cancelled rfl (.inr (.inr rfl))
    | false =>
      cases t <;> simp only [next, Bool.false_eq_true, if_false, reduceCtorEq] at h
      · split at h <;> cases h
        · exact .sleep rfl rfl ‹_›
        · exact afterSleep_step rfl (.inl ⟨rfl, Nat.eq_zero_of_not_pos ‹_›⟩)
      · split at h <;> cases h
        exact afterSleep_step rfl (.inr ⟨_, rfl, ‹_›⟩)
  | factoryOk =>
    simp [next, S.emit] at h
    obtain ⟨⟨ht, hc⟩, h⟩ := h; subst h; exact .factoryOk ht hc
  | factoryFail =>
    simp [next, S.emit] at h
    obtain ⟨⟨ht, hc⟩, h⟩ := h; subst h; exact .factoryFail ht hc
  | lose =>
    cases conn <;> simp [next, S.emit] at h
    obtain ⟨hc, h⟩ := h; subst h; exact .lose _ rfl hc
  | close =>
    cases conn <;> simp [next, S.emit, closeTransport] at h
    · subst h; exact .closeIdle nofun
    · split at h <;> subst h
      · apply Step.closeLive _ rfl; assumption
      · exact .closeIdle fun c h => Option.some.inj h ▸ ‹_›
  | tick d =>
    simp [next] at h
    subst h; exact .tick d

theorem step_next {s s' : S} {l : Label} (h : Step s l s') : next s l = some s' := by
  cases h with
  | startExit hl hcl => simp [next, topLogic, S.emit, hl, hcl]
  | startSpawn hl hcl => simp [next, topLogic, hl, hcl]
  | connected c hl ht hcl hcn => simp [next, hl, ht, hcl, hcn]
  | retry hl ht hcl hcn => simp [next, topLogic, hl, ht, hcl, hcn]
  | w1Exit hl hcl hcn => simp [next, topLogic, S.emit, hl, hcl, hcn]
  | w1CloseExit c hl hcl hcn => simp [next, topLogic, S.emit, closeTransport, hl, hcl, hcn]
  | w2Exit hl hcl => simp [next, topLogic, S.emit, hl, hcl]
  | lossSeen c hl hcl hcn hd => simp [next, topLogic, hl, hcl, hcn, hd]
  | cancelled hc ht => rcases ht with ht | ⟨u, ht⟩ | ht <;> simp [next, hc, ht]
  | sleep hc ht hp => simp [next, hc, ht, hp]
  | giveUp hc hr hcl => rcases hr with ⟨ht, h0⟩ | ⟨u, ht, hu⟩ <;> simp [next, afterSleep, *]
  | attempt hc hr hcl => rcases hr with ⟨ht, h0⟩ | ⟨u, ht, hu⟩ <;> simp [next, afterSleep, S.emit, *]
  | factoryOk ht hc => simp [next, S.emit, ht, hc]
  | factoryFail ht hc => simp [next, S.emit, ht, hc]
  | lose c hcn hm => simp [next, S.emit, hcn, hm]
  | closeIdle h =>
    cases hcn : s.conn with
    | none => simp [next, S.emit, hcn]
    | some c => simp [next, S.emit, hcn, h c hcn]
  | closeLive c hcn hm => simp [next, S.emit, closeTransport, hcn, hm]
  | tick d => rfl

theorem exit_enabled {s : S} (hc : s.closing = true) (hl : s.lpc ≠ .exited) :
    ∃ s', next s .lRun = some s' ∧ s'.lpc = .exited := by
  cases hlpc : s.lpc with
  | start => exact ⟨_, step_next (.startExit hlpc hc), rfl⟩
  | w1 =>
    cases hcn : s.conn with
    | none => exact ⟨_, step_next (.w1Exit hlpc hc hcn), rfl⟩
    | some c => exact ⟨_, step_next (.w1CloseExit c hlpc hc hcn), rfl⟩
  | w2 => exact ⟨_, step_next (.w2Exit hlpc hc), rfl⟩
  | exited => exact absurd hlpc hl

theorem Reach.induct {md th sl : Nat} {P : S → Prop} (h0 : P (S.init md th sl))
    (hs : ∀ {s s' l}, Reach md th sl s → P s → Step s l s' → P s') {s : S} (h : Reach md th sl s) : P s := by
  induction h with
  | init => exact h0
  | step s s' l hr hn ih => exact hs hr ih (next_step hn)

theorem active_step {s s' : S} {l : Label} (h : Step s l s') (hl : l ≠ .close) (ha : active s) : active s' := by
  cases h
  case closeIdle | closeLive => exact absurd rfl hl
  case startExit _ h | w1Exit _ h _ | w1CloseExit _ h _ | w2Exit _ h => exact nomatch ha.1.symm.trans h
  case startSpawn | connected | retry | lossSeen => exact ⟨ha.1, nofun⟩
  all_goals exact ha

theorem Step.frame {s s' : S} {l : Label} (h : Step s l s') :
    s'.backoff.maxDelay = s.backoff.maxDelay ∧ s'.breaker.threshold = s.breaker.threshold ∧
    s'.breaker.sleepSec = s.breaker.sleepSec ∧ s.now ≤ s'.now ∧
    (s'.breaker.lastLoss = s.breaker.lastLoss ∨ s'.breaker.lastLoss = some (s.now * 1000000)) := by
  cases h
  case lossSeen => exact ⟨rfl, update_threshold .., update_sleepSec .., Nat.le_refl _, .inr (update_lastLoss ..)⟩
  case tick => exact ⟨rfl, rfl, rfl, Nat.le_add_right .., .inl rfl⟩
  all_goals exact ⟨rfl, rfl, rfl, Nat.le_refl _, .inl rfl⟩

theorem Step.log {s s' : S} {l : Label} (h : Step s l s') :
    ∃ es : List Ev, s'.log = s.log ++ es.map (s.now, ·) ∧
      (Ev.attempt ∈ es → l = .tRun ∧ s.cancelReq = false ∧ s.closing = false ∧ ready s) := by
  cases h
  case attempt hc hr hcl => exact ⟨[.attempt], rfl, fun _ => ⟨rfl, hc, hcl, hr⟩⟩
  case startExit | w1Exit | w2Exit => exact ⟨[.loopDone], rfl, by simp⟩
  case w1CloseExit c _ _ _ => exact ⟨[.closed c, .loopDone], rfl, by simp⟩
  case factoryOk => exact ⟨[.obtained s.nextId], rfl, by simp⟩
  case factoryFail => exact ⟨[.failed], rfl, by simp⟩
  case lose c _ _ => exact ⟨[.lost c], rfl, by simp⟩
  case closeIdle => exact ⟨[.closeCalled], rfl, by simp⟩
  case closeLive c _ _ => exact ⟨[.closeCalled, .closed c], rfl, by simp⟩
  all_goals exact ⟨[], (List.append_nil _).symm, nofun⟩

theorem attempt_emitted {s s' : S} {l : Label} (hs : next s l = some s')
    (ha : (s.now, Ev.attempt) ∈ s'.log.drop s.log.length) :
    l = .tRun ∧ s.cancelReq = false ∧ s.closing = false ∧ ready s := by
  obtain ⟨es, he, h⟩ := (next_step hs).log
  rw [he, List.drop_left] at ha
  obtain ⟨e, hm, heq⟩ := List.mem_map.1 ha
  cases heq
  exact h hm

end Amshan.ConnMgr
