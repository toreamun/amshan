import Amshan.Model.P1Parse
import Amshan.Spec.P1Block
import Amshan.Lemmas.PyList
import Amshan.Lemmas.Basic
/-
  Termination and cost of the P1 data-block parser, on every input: `Fine r Q` says that `r` is not the
  model's out-of-fuel error and that a result satisfies `Q`.  Each loop gets one induction on its fuel,
  with a `Q` that charges every iteration to characters consumed; so the fuel the callers hand over
  (line length + 1) is enough, and a parse makes at most as many iterations as the content has characters.
  Last, what does not depend on fuel at all: text without '(' or without ')' yields no data set.
-/
open Amshan Amshan.Gen Amshan.Cosem Amshan.P1Parse Amshan.P1BlockSpec Amshan.Py

namespace Amshan.P1ParseRT


theorem findFrom_some {line : List Nat} {c s e : Nat} (h : findFrom line c s = some e) :
    s ≤ e ∧ e < line.length ∧ line[e]? = some c := by
  unfold findFrom at h
  cases hf : find (line.drop s) c with
  | none => rw [hf] at h; cases h
  | some i =>
    rw [hf] at h
    obtain ⟨_, _, hc, hlt⟩ := P1L.find_some_take_drop _ _ _ hf
    simp only [Option.map_some, Option.some.injEq, List.length_drop] at h hlt
    rw [List.getElem?_drop, Nat.add_comm, h] at hc
    exact ⟨by omega, by omega, hc⟩

theorem findFrom_some_ne {line : List Nat} {c c' s e : Nat} (h : findFrom line c s = some e)
    (hs : line[s]? = some c') (hne : c' ≠ c) : s < e := by
  obtain ⟨h1, _, h3⟩ := findFrom_some h
  rcases Nat.lt_or_ge s e with h2 | h2
  · exact h2
  · have hse : s = e := by omega
    rw [hse, h3] at hs
    exact absurd (Option.some.inj hs).symm hne

theorem findFrom_none (line : List Nat) (c : Nat) (start : Nat) (h : c ∉ line) : findFrom line c start = none := by
  unfold findFrom
  rw [P1L.find_none_of_not_mem _ c (fun hm => h (List.mem_of_mem_drop hm))]
  rfl

abbrev Fine {α : Type} (r : Except PyExc α) (Q : α → Prop) : Prop := Outcome (· ≠ .overflowError) r Q

theorem fine_valueError {α : Type} {Q : α → Prop} : Fine (.error .valueError) Q := by
  intro h; cases h

theorem parseValue_fine (s : List Nat) : Fine (parseValue s) fun _ => True := by
  unfold parseValue
  split
  · trivial
  · trivial
  · exact fine_valueError

/-- every iteration consumes at least the two parentheses: that is the `2 * (it - iters)` -/
theorem valuesLoop_fine (line : List Nat) :
    ∀ (fuel fromPos : Nat) (values : List DataSetValue) (iters : Nat), line.length - fromPos < fuel →
      Fine (valuesLoop line fuel fromPos values iters) fun (pos, vs, it) =>
        iters + 1 ≤ it ∧ vs ≠ [] ∧
        (match pos with
         | some p => fromPos + 2 * (it - iters) ≤ p ∧ p < line.length
         | none => fromPos + 2 * (it - iters) ≤ line.length) := by
  intro fuel
  induction fuel with
  | zero => intro fromPos values iters h; omega
  | succ fuel ih =>
    intro fromPos values iters h
    unfold valuesLoop
    split
    · exact fine_valueError
    · rename_i h40
      simp only [bne_iff_ne, ne_eq, Decidable.not_not] at h40
      split
      · exact fine_valueError
      · rename_i endPos hfind
        have hlt2 := findFrom_some_ne hfind h40 (by decide)
        have hlt3 := (findFrom_some hfind).2.1
        split
        · exact (parseValue_fine (slice line (fromPos + 1) endPos)).error ‹_›
        · simp only
          split
          · exact ⟨by dsimp only; omega, by simp, by dsimp only; omega⟩
          · split
            · exact ⟨by dsimp only; omega, by simp, by dsimp only; omega⟩
            · refine (ih (endPos + 1) _ (iters + 1) (by omega)).imp ?_
              rintro ⟨pos, vs, it⟩ ⟨a1, a2, a3⟩
              dsimp only at a1 a3 ⊢
              refine ⟨by omega, a2, ?_⟩
              cases pos with
              | some p => dsimp only at a3 ⊢; omega
              | none => dsimp only at a3 ⊢; omega

theorem getAddressAndValues_fine (line : List Nat) (pos : Nat) :
    Fine (getAddressAndValues line pos) fun (next, _, _, it) =>
      match next with
      | some p => pos + it + 1 ≤ p ∧ p < line.length
      | none => it = 0 ∨ pos + it + 1 ≤ line.length := by
  -- whatever address was found, the values are read from some `fp ≥ pos`
  have tail : ∀ (fp : Nat) (addr : Option (List Nat)), pos ≤ fp →
      Fine (if fp > 0 then
          match valuesLoop line (line.length + 1) fp [] 0 with
          | .error e => .error e
          | .ok (p, values, it) => .ok ((if values.isEmpty then none else p), addr, values, it)
        else .ok (none, addr, [], 0)) fun (next, _, _, it) =>
        match next with
        | some p => pos + it + 1 ≤ p ∧ p < line.length
        | none => it = 0 ∨ pos + it + 1 ≤ line.length := by
    intro fp addr hle
    split
    · have := valuesLoop_fine line (line.length + 1) fp [] 0 (by omega)
      split
      · exact this.error ‹_›
      · rename_i p vs it hv
        obtain ⟨a1, a2, a3⟩ := this.ok hv
        have hne : vs.isEmpty = false := List.isEmpty_eq_false_iff.2 a2
        simp only [Fine, Outcome, Nat.sub_zero, hne, Bool.false_eq_true, if_false] at a1 a3 ⊢
        cases p with
        | some p => dsimp only at a3 ⊢; omega
        | none => dsimp only at a3 ⊢; omega
    · exact Or.inl rfl
  unfold getAddressAndValues
  simp only
  split
  · rename_i ae hae
    have := findFrom_some hae
    split
    · exact tail ae _ (by omega)
    · exact tail pos _ (Nat.le_refl _)
  · exact tail pos _ (Nat.le_refl _)

theorem lineLoop_fine (line : List Nat) :
    ∀ (fuel pos : Nat) (items : List DataSet) (iters : Nat), line.length - pos < fuel →
      Fine (lineLoop line fuel pos items iters) fun r => r.2 ≤ iters + max 1 (line.length - pos) := by
  intro fuel
  induction fuel with
  | zero => intro pos items iters h; omega
  | succ fuel ih =>
    intro pos items iters h
    have := getAddressAndValues_fine line pos
    unfold lineLoop
    split
    · exact this.error ‹_›
    · rename_i next address values it hg
      have := this.ok hg
      cases next with
      | none => dsimp only [Fine, Outcome] at this ⊢; omega
      | some p =>
        dsimp only [Fine, Outcome] at this
        exact (ih p _ _ (by omega)).imp fun r hr => by omega

theorem filter_length_sum (p : List Nat → Bool) (ls : List (List Nat)) :
    ((ls.filter p).map List.length).sum ≤ (ls.map List.length).sum := by
  induction ls with
  | nil => simp
  | cons l ls ih =>
    simp only [List.filter_cons]
    split
    · simp only [List.map_cons, List.sum_cons]; omega
    · simp only [List.map_cons, List.sum_cons]; omega

/-- the function `parseDataBlock` folds over the lines -/
def lineStep (acc : Except PyExc (List DataSet × Nat)) (line : List Nat) : Except PyExc (List DataSet × Nat) :=
  match acc with
  | .error e => .error e
  | .ok (items, iters) =>
    match lineLoop line (line.length + 1) 0 [] 0 with
    | .error e => .error e
    | .ok (its, n) => .ok (items ++ its, iters + n)

theorem parseDataBlock_eq (data : List Nat) :
    parseDataBlock data =
      ((splitLines data).filter (fun l => !(strip l).isEmpty)).foldl lineStep (.ok ([], 0)) := rfl

theorem lineStep_fine {acc : Except PyExc (List DataSet × Nat)} {n : Nat} (h : Fine acc fun r => r.2 ≤ n)
    (l : List Nat) (hl : l ≠ []) : Fine (lineStep acc l) fun r => r.2 ≤ n + l.length := by
  have hlen : 1 ≤ l.length := List.length_pos_iff.mpr hl
  unfold lineStep
  split
  · exact h
  · have := lineLoop_fine l (l.length + 1) 0 [] 0 (by omega)
    split
    · exact this.error ‹_›
    · rename_i its m hs
      have := this.ok hs
      dsimp only [Fine, Outcome] at h this ⊢
      omega

theorem foldl_lineStep_fine (ls : List (List Nat)) (hne : ∀ l ∈ ls, l ≠ []) :
    ∀ (acc : Except PyExc (List DataSet × Nat)) (n : Nat), Fine acc (fun r => r.2 ≤ n) →
      Fine (ls.foldl lineStep acc) fun r => r.2 ≤ n + (ls.map List.length).sum := by
  induction ls with
  | nil => intro acc n h; exact h
  | cons l ls ih =>
    intro acc n h
    rw [List.foldl_cons, List.map_cons, List.sum_cons, ← Nat.add_assoc]
    exact ih (fun l hl => hne l (by simp [hl])) _ _ (lineStep_fine h l (hne l (by simp)))

theorem strip_nil : strip [] = [] := rfl

theorem parseContent_fine (data : List Nat) : Fine (parseContent data) fun r => r.2 ≤ data.length := by
  unfold parseContent
  split
  · exact fine_valueError
  · rw [parseDataBlock_eq]
    refine (foldl_lineStep_fine _ (fun l hl hc => ?_) (.ok ([], 0)) 0 (Nat.le_refl 0)).imp fun r hr => ?_
    · subst hc
      simp [strip_nil] at hl
    · have h2 := filter_length_sum (fun l => !(strip l).isEmpty) (splitLines data)
      have h3 := P1L.splitLines_length data
      omega

theorem parseContent_ne_overflow (data : List Nat) : parseContent data ≠ .error .overflowError :=
  fun h => (parseContent_fine data).error h rfl

theorem parseContent_cost (data : List Nat) (items : List DataSet) (iters : Nat)
    (h : parseContent data = .ok (items, iters)) : iters ≤ data.length :=
  (parseContent_fine data).ok h

theorem valuesLoop_no_close (line : List Nat) (h : 41 ∉ line) (fuel fromPos : Nat) (vals : List DataSetValue)
    (it : Nat) : ∃ e, valuesLoop line fuel fromPos vals it = .error e := by
  cases fuel with
  | zero => exact ⟨_, rfl⟩
  | succ f =>
    unfold valuesLoop
    split
    · exact ⟨_, rfl⟩
    · rw [findFrom_none line 41 fromPos h]
      exact ⟨_, rfl⟩

/-- a line without '(' or without ')': `get_address_and_values`, if it returns, has read no value and
    gives no position to go on from -/
theorem gav_no_paren (line : List Nat) (h : 40 ∉ line ∨ 41 ∉ line) :
    Outcome (fun _ => True) (getAddressAndValues line 0) fun (next, _, vs, _) => next = none ∧ vs = [] := by
  unfold getAddressAndValues
  cases hf : findFrom line 40 0 with
  | none => exact ⟨rfl, rfl⟩
  | some ae =>
    by_cases hae : ae > 0
    · simp only [hae, if_true]
      rcases h with h40 | h41
      · rw [findFrom_none line 40 0 h40] at hf
        cases hf
      · obtain ⟨e, he⟩ := valuesLoop_no_close line h41 (line.length + 1) ae [] 0
        rw [he]
        trivial
    · simp only [hae, if_false]
      exact ⟨rfl, rfl⟩

theorem lineLoop_no_paren (line : List Nat) (h : 40 ∉ line ∨ 41 ∉ line) :
    Outcome (fun _ => True) (lineLoop line (line.length + 1) 0 [] 0) fun r => r.1 = [] := by
  unfold lineLoop
  split
  · trivial
  · rename_i next a vs it hg
    obtain ⟨rfl, rfl⟩ := (gav_no_paren line h).ok hg
    rfl

theorem foldl_no_paren (lines : List (List Nat)) (h : ∀ l ∈ lines, 40 ∉ l ∨ 41 ∉ l) :
    Outcome (fun _ => True) (lines.foldl lineStep (.ok ([], 0))) fun r => r.1 = [] := by
  refine List.foldlRecOn (motive := fun acc : Except PyExc (List DataSet × Nat) =>
    Outcome (fun _ => True) acc fun r => r.1 = []) _ _ (rfl : ([] : List DataSet) = []) fun acc hacc l hl => ?_
  unfold lineStep
  split
  · trivial
  · split
    · trivial
    · rename_i hloop
      exact List.append_eq_nil_iff.2 ⟨hacc, (lineLoop_no_paren l (h l hl)).ok hloop⟩

theorem parseContent_no_paren {p : List Nat} (h : 40 ∉ p ∨ 41 ∉ p) :
    Outcome (fun _ => True) (parseContent p) fun r => r.1 = [] := by
  unfold parseContent
  split
  · trivial
  · rw [parseDataBlock_eq]
    refine foldl_no_paren _ fun l hl => ?_
    have hm := P1L.splitLines_mem p l (List.mem_filter.1 hl).1
    exact h.imp (fun h hc => h (hm 40 hc)) fun h hc => h (hm 41 hc)

end Amshan.P1ParseRT
