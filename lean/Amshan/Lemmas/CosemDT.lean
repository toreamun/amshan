import Amshan.Model.Cosem
import Amshan.Spec.Lists
import Amshan.Lemmas.PyList
/-
  The parsers of Model/Cosem under three notions - what a successful parse consumes (`Uses`), which
  octet a parser wants first (`Wants`), the `GreedyRange` loop (`IsGreedy`) - and read back on the
  encodings of Spec/Lists: integers, text, date-times in every syntactic position (C10), the LLC /
  APDU header.
-/
namespace Amshan.CosemDT
open Amshan.Gen Amshan.Cosem Amshan.ListSpec

@[simp] theorem bind_ok {α β : Type} (a : α) (r : List Nat) (f : α → List Nat → Res β) :
    (Res.ok a r).bind f = f a r := rfl

theorem bind_eq_ok {α β : Type} {x : Res α} {f : α → List Nat → Res β} {b : β} {r : List Nat}
    (h : x.bind f = .ok b r) : ∃ a r1, x = .ok a r1 ∧ f a r1 = .ok b r := by
  cases x with
  | ok a r1 => exact ⟨a, r1, rfl, h⟩
  | soft => cases h
  | explicit => cases h
  | py e => cases h

@[simp] theorem tNull_eq : tNull = 0 := by decide
@[simp] theorem tArray_eq : tArray = 1 := by decide
@[simp] theorem tStructure_eq : tStructure = 2 := by decide
@[simp] theorem tU32_eq : tU32 = 6 := by decide
@[simp] theorem tOctet_eq : tOctet = 9 := by decide
@[simp] theorem tVisible_eq : tVisible = 10 := by decide
@[simp] theorem tInt8_eq : tInt8 = 15 := by decide
@[simp] theorem tInt16_eq : tInt16 = 16 := by decide
@[simp] theorem tU16_eq : tU16 = 18 := by decide
@[simp] theorem tEnum_eq : tEnum = 22 := by decide

@[simp] theorem u8_cons (b : Nat) (r : List Nat) : u8 (b :: r) = .ok b r := rfl
@[simp] theorem constByte_cons (v : Nat) (r : List Nat) : constByte v (v :: r) = .ok () r := by
  simp [constByte]

theorem constByte_ne {v b : Nat} (h : b ≠ v) (r : List Nat) : constByte v (b :: r) = .soft := by
  simp [constByte, Res.bind, h]

theorem takeN_append (n : Nat) (l r : List Nat) (h : l.length = n) : takeN n (l ++ r) = .ok l r := by
  subst h
  simp [takeN]

/-- the deviation as `dateTime` computes it from the two octets (0x8000: not specified) -/
def devDec (dev16 : Nat) : Option Int :=
  let dev : Int := if dev16 ≥ 32768 then (dev16 : Int) - 65536 else dev16
  if dev = -32768 then none else some dev

theorem dateTime_cons (yh yl mo d dow h mi s hs dh dl st : Nat) (rest : List Nat) :
    dateTime (12 :: yh :: yl :: mo :: d :: dow :: h :: mi :: s :: hs :: dh :: dl :: st :: rest) =
      match mkDatetime (yh * 256 + yl) mo d (optByte h) (optByte mi) (optByte s) (optByte hs)
          (devDec (dh * 256 + dl)) with
      | .ok dt => .ok dt rest
      | .error e => .py e := rfl

/-- whatever is not the length octet 12 and twelve more octets is refused softly (wrong length octet:
    ConstError; too short: StreamError) -/
theorem dateTime_cases (x : List Nat) :
    (∃ yh yl mo d dow h mi s hs dh dl st rest,
      x = 12 :: yh :: yl :: mo :: d :: dow :: h :: mi :: s :: hs :: dh :: dl :: st :: rest) ∨
    dateTime x = .soft := by
  unfold dateTime
  split
  · exact .inl ⟨_, _, _, _, _, _, _, _, _, _, _, _, _, rfl⟩
  · exact .inr rfl

theorem dateTime_soft_of_ne (b : Nat) (xs : List Nat) (hb : b ≠ 12) : dateTime (b :: xs) = .soft := by
  rcases dateTime_cases (b :: xs) with ⟨_, _, _, _, _, _, _, _, _, _, _, _, _, hx⟩ | hx
  · cases hx
    exact absurd rfl hb
  · exact hx

theorem dateTime_nil : dateTime [] = .soft := rfl

theorem dateTime_ne_explicit (x : List Nat) : dateTime x ≠ .explicit := by
  rcases dateTime_cases x with ⟨_, _, _, _, _, _, _, _, _, _, _, _, _, rfl⟩ | hx
  · rw [dateTime_cons]
    split <;> nofun
  · rw [hx]
    nofun

theorem mkDatetime_ok_month {y mo d : Nat} {h mi s hs : Option Nat} {dev : Option Int} {dt : DT}
    (e : mkDatetime y mo d h mi s hs dev = .ok dt) : 1 ≤ mo ∧ mo ≤ 12 := by
  by_cases hm : 1 ≤ mo ∧ mo ≤ 12
  · exact hm
  · exfalso
    unfold mkDatetime at e
    split at e
    · cases e
    · split at e
      · rw [if_neg fun hr => hm ⟨hr.2.2.1, hr.2.2.2.1⟩] at e
        cases e
      · cases e

theorem dateTime_ok_inv {x : List Nat} {d : DT} {r : List Nat} (e : dateTime x = .ok d r) :
    ∃ yh yl mo t, x = 12 :: yh :: yl :: mo :: t ∧ 1 ≤ mo ∧ mo ≤ 12 := by
  rcases dateTime_cases x with ⟨yh, yl, mo, _, _, _, _, _, _, _, _, _, _, rfl⟩ | hx
  · rw [dateTime_cons] at e
    split at e
    · rename_i hm
      exact ⟨yh, yl, mo, _, rfl, mkDatetime_ok_month hm⟩
    · cases e
  · rw [hx] at e
    cases e

def Uses {α : Type} (n : Nat) (q : List Nat → Res α) : Prop :=
  ∀ ⦃s a r⦄, q s = .ok a r → r.length + n ≤ s.length

namespace Uses
variable {α β : Type} {m n : Nat} {q q' : List Nat → Res α}

theorem mono (h : Uses n q) (hm : m ≤ n) : Uses m q := fun _ _ _ e => by have := h e; omega

theorem bind {f : α → List Nat → Res β} (hq : Uses m q) (hf : ∀ a, Uses n (f a)) :
    Uses (m + n) (fun s => (q s).bind f) := by
  intro s b r h
  obtain ⟨a, r1, h1, h2⟩ := bind_eq_ok h
  have := hq h1; have := hf a h2; omega

theorem map (hq : Uses m q) (g : α → β) : Uses m (fun s => (q s).bind fun a r => .ok (g a) r) :=
  hq.bind (n := 0) fun _ _ _ _ e => by cases e; exact Nat.le_refl _

theorem ite {c : Prop} [Decidable c] (h : Uses m q) (h' : Uses n q') :
    Uses 0 (fun s => if c then q s else q' s) := by
  intro s a r e
  split at e
  · exact (h.mono (Nat.zero_le _)) e
  · exact (h'.mono (Nat.zero_le _)) e

theorem fail (n : Nat) (x : Res α) (hx : ∀ a r, x ≠ .ok a r) : Uses n (fun _ => x) := fun _ a r e => absurd e (hx a r)

theorem ok (a : α) (g : List Nat → List Nat) (hg : ∀ s, (g s).length ≤ s.length) :
    Uses 0 (fun s => .ok a (g s)) := fun s _ _ e => by cases e; exact hg s

end Uses

theorem u8_uses : Uses 1 u8 := by
  intro s a r h
  cases s with
  | nil => cases h
  | cons b t => cases h; exact Nat.le_refl _

theorem u16_uses : Uses 2 u16 := by
  intro s a r h
  match s, h with
  | _ :: _ :: t, h => cases h; exact Nat.le_refl _

theorem u32_uses : Uses 4 u32 := by
  intro s a r h
  match s, h with
  | _ :: _ :: _ :: _ :: t, h => cases h; exact Nat.le_refl _

theorem takeN_uses (n : Nat) : Uses n (takeN n) := by
  intro s a r h
  unfold takeN at h
  split at h
  · cases h; rw [List.length_drop]; omega
  · cases h

theorem dateTime_uses : Uses 13 dateTime := by
  intro s a r h
  rcases dateTime_cases s with ⟨_, _, _, _, _, _, _, _, _, _, _, _, _, rfl⟩ | hx
  · rw [dateTime_cons] at h
    split at h
    · cases h; exact Nat.le_refl _
    · cases h
  · rw [hx] at h
    cases h

theorem s8_uses : Uses 1 s8 := u8_uses.map _
theorem s16_uses : Uses 2 s16 := u16_uses.map _

theorem constByte_uses (v : Nat) : Uses 1 (constByte v) :=
  u8_uses.bind fun _ => .ite (.ok () id fun _ => Nat.le_refl _) (.fail 0 .soft nofun)

theorem visibleString_uses : Uses 1 visibleString :=
  u8_uses.bind fun n => ((takeN_uses n).bind fun t =>
    Uses.ite (.ok t id fun _ => Nat.le_refl _) (.fail 0 .soft nofun)).mono (Nat.zero_le _)

theorem octetStringText_uses : Uses 1 octetStringText :=
  u8_uses.bind fun n => ((takeN_uses n).bind fun _ =>
    Uses.ite (.ok _ id fun _ => Nat.le_refl _) (.fail 0 .soft nofun)).mono (Nat.zero_le _)

theorem obisField_uses : Uses 8 obisField :=
  (constByte_uses _).bind fun _ => (constByte_uses 6).bind fun _ => takeN_uses 6

theorem dateTimeField_uses : Uses 14 dateTimeField := (constByte_uses _).bind fun _ => dateTime_uses

theorem nullData_eq (s : List Nat) : nullData s = s.dropWhile (· == 0) := by
  unfold nullData skipNulls
  rw [tNull_eq]
  cases s with
  | nil => rfl
  | cons b t =>
    show (if b = 0 then _ else _) = _
    by_cases hb : b = 0
    · rw [if_pos hb]
    · rw [if_neg hb, List.dropWhile_cons_of_neg (by simpa using hb)]

theorem nullData_len (s : List Nat) : (nullData s).length ≤ s.length :=
  nullData_eq s ▸ (List.dropWhile_sublist _).length_le

theorem nullData_replicate (p : Nat) (rest : List Nat) (h : rest.head? ≠ some 0) :
    nullData (List.replicate p 0 ++ rest) = rest := by
  have hr : rest.dropWhile (· == 0) = rest := by
    cases rest with
    | nil => rfl
    | cons b t => exact List.dropWhile_cons_of_neg (by simpa using h)
  rw [nullData_eq, List.dropWhile_append, List.dropWhile_replicate]
  simpa using hr

/-- `Select(DateTime, OctedStringText)` as `field` spells it -/
theorem dateTimeOrText_uses : Uses 1 (fun r => match dateTime r with
    | .ok d r' => .ok (FieldVal.dt d) r'
    | .explicit => .explicit
    | _ => (octetStringText r).bind fun t r' => .ok (.str t) r') := by
  intro s a r h
  dsimp only at h
  split at h
  · rename_i hd; cases h; exact (dateTime_uses.mono (by omega)) hd
  · cases h
  · exact (octetStringText_uses.map _) h

theorem field_uses : Uses 1 field :=
  u8_uses.bind fun _ =>
    .ite (.ok _ nullData nullData_len) <| .ite (s8_uses.map _) <| .ite (s16_uses.map _) <|
    .ite (u16_uses.map _) <| .ite (u32_uses.map _) <| .ite dateTimeOrText_uses <|
    .ite (visibleString_uses.map _) (.fail 0 .explicit nofun)

def Wants {α : Type} (t : Nat) (q : List Nat → Res α) : Prop := ∀ s, s.head? ≠ some t → q s = .soft

theorem wants_constByte {α : Type} (t : Nat) (f : Unit → List Nat → Res α) :
    Wants t (fun s => (constByte t s).bind f) := by
  intro s h
  cases s with
  | nil => rfl
  | cons b r =>
    show (constByte t (b :: r)).bind f = .soft
    rw [constByte_ne fun e => h (by rw [e]; rfl)]
    rfl

theorem Wants.bind {α β : Type} {t : Nat} {q : List Nat → Res α} (h : Wants t q) (f : α → List Nat → Res β) :
    Wants t (fun s => (q s).bind f) := fun s hs => by
  show (q s).bind f = .soft
  rw [h s hs]
  rfl

section Greedy
variable {ε : Type} {el : List Nat → Res ε} {g : Nat → List Nat → Res (List ε)}

/-- `g` is the fuelled `GreedyRange(el)` loop -/
def IsGreedy (el : List Nat → Res ε) (g : Nat → List Nat → Res (List ε)) : Prop :=
  (∀ s, g 0 s = .ok [] s) ∧
  ∀ f s, g (f + 1) s = match el s with
    | .ok e r => (g f r).bind fun es r' => .ok (e :: es) r'
    | .explicit => .explicit
    | _ => .ok [] s

theorem IsGreedy.indep (hg : IsGreedy el g) (hel : Uses 1 el) :
    ∀ (f f' : Nat) (s : List Nat), s.length < f → s.length < f' → g f s = g f' s := by
  intro f
  induction f with
  | zero => intro f' s h; omega
  | succ f ih =>
    intro f' s h h'
    obtain ⟨f', rfl⟩ : ∃ k, f' = k + 1 := ⟨f' - 1, by omega⟩
    rw [hg.2, hg.2]
    cases he : el s with
    | ok e r => have := hel he; simp only; rw [ih f' r (by omega) (by omega)]
    | soft => rfl
    | explicit => rfl
    | py e => rfl

theorem IsGreedy.count (hg : IsGreedy el g) (hel : Uses 1 el) :
    ∀ (f : Nat) (s : List Nat) (es : List ε) (r : List Nat), g f s = .ok es r → es.length + r.length ≤ s.length := by
  intro f
  induction f with
  | zero => intro s es r h; rw [hg.1] at h; cases h; simp
  | succ f ih =>
    intro s es r h
    rw [hg.2] at h
    split at h
    · rename_i e r1 he
      obtain ⟨es', r2, h1, h2⟩ := bind_eq_ok h
      cases h2
      have := ih _ _ _ h1
      have := hel he
      simp only [List.length_cons]; omega
    · cases h
    · cases h; simp

theorem IsGreedy.stop (hg : IsGreedy el g) (f : Nat) {s : List Nat} (h : el s = .soft) :
    g (f + 1) s = .ok [] s := by
  rw [hg.2, h]

theorem IsGreedy.enc (hg : IsGreedy el g) (hnil : el [] = .soft) {χ : Type} {enc : χ → List Nat} {dec : χ → ε} :
    ∀ xs : List χ, (∀ x ∈ xs, ∀ ys : List χ, el (enc x ++ ys.flatMap enc) = .ok (dec x) (ys.flatMap enc)) →
      ∀ fuel, (xs.flatMap enc).length < fuel → g fuel (xs.flatMap enc) = .ok (xs.map dec) [] := by
  intro xs
  induction xs with
  | nil =>
    intro _ fuel hf
    obtain ⟨f, rfl⟩ : ∃ f, fuel = f + 1 := ⟨fuel - 1, by omega⟩
    exact hg.stop f hnil
  | cons x xs ih =>
    intro h fuel hf
    obtain ⟨f, rfl⟩ : ∃ f, fuel = f + 1 := ⟨fuel - 1, by omega⟩
    -- an element is not read back from nothing
    have hx : enc x ≠ [] := fun e => by
      have h0 := h x List.mem_cons_self []
      rw [e] at h0
      cases hnil.symm.trans h0
    rw [List.flatMap_cons, List.length_append] at hf
    have := List.length_pos_iff.2 hx
    rw [hg.2, List.flatMap_cons, h x List.mem_cons_self xs]
    simp only [ih (fun y hy => h y (List.mem_cons_of_mem _ hy)) f (by omega), bind_ok, List.map_cons]

end Greedy

theorem u32_be32 (v : Nat) (h : v < 4294967296) (r : List Nat) : u32 (be32 v ++ r) = .ok v r := by
  simp only [be32, List.cons_append, List.nil_append, u32]
  congr 1; omega

theorem u16_be16 (v : Nat) (h : v < 65536) (r : List Nat) : u16 (be16 v ++ r) = .ok v r := by
  simp only [be16, List.cons_append, List.nil_append, u16]
  congr 1; omega

theorem s16_be16 (v : Int) (h : -32768 ≤ v ∧ v < 32768) (r : List Nat) :
    s16 (be16 (twos16 v) ++ r) = .ok v r := by
  unfold s16
  rw [u16_be16 _ (by unfold twos16; split <;> omega), bind_ok]
  congr 1
  unfold twos16
  split <;> split <;> omega

theorem s8_twos8 (sc : Int) (h : -128 ≤ sc ∧ sc ≤ 127) (r : List Nat) :
    s8 (twos8 sc :: r) = .ok sc r := by
  unfold s8
  rw [u8_cons, bind_ok]
  congr 1
  unfold twos8
  split <;> split <;> omega

theorem obisField_enc (o : List Nat) (h : o.length = 6) (r : List Nat) :
    obisField (encObis o ++ r) = .ok o r := by
  unfold obisField encObis
  simp only [List.cons_append, List.nil_append, tOctet_eq, constByte_cons, bind_ok, takeN_append 6 o r h]

theorem obisField_wants : Wants 9 obisField := tOctet_eq ▸ wants_constByte tOctet _

theorem obis6_cases {o : List Nat} (h : o.length = 6) : ∃ a b c d e f, o = [a, b, c, d, e, f] := by
  match o, h with
  | [a, b, c, d, e, f], _ => exact ⟨a, b, c, d, e, f, rfl⟩

theorem obis6_lt {a b c d e f : Nat} (h : Obis6 [a, b, c, d, e, f]) :
    a < 256 ∧ b < 256 ∧ c < 256 ∧ d < 256 ∧ e < 256 ∧ f < 256 := by
  simpa only [List.mem_cons, List.not_mem_nil, or_false, forall_eq_or_imp, forall_eq] using h.2

theorem ascii7_of_printable {s : List Nat} (h : printable s) : ascii7 s := fun c hc => by
  have := h c hc; omega

theorem isAscii_of_ascii7 {s : List Nat} (h : ascii7 s) : isAsciiOctets s = true := by
  unfold isAsciiOctets
  rw [List.all_eq_true]
  intro c hc
  simpa using h c hc

theorem visibleString_enc (s : List Nat) (h : ascii7 s) (r : List Nat) :
    visibleString (s.length :: (s ++ r)) = .ok s r := by
  unfold visibleString
  simp only [u8_cons, bind_ok, takeN_append s.length s r rfl, isAscii_of_ascii7 h, if_true]

theorem octetStringText_enc (s : List Nat) (hp : printable s) (r : List Nat) :
    octetStringText (s.length :: (s ++ r)) = .ok s r := by
  have hs : Py.rstripWith (· == 0) s = s :=
    P1L.rstripWith_none fun c hc => by have := hp c hc; simp only [beq_eq_false_iff_ne, ne_eq]; omega
  unfold octetStringText
  simp only [u8_cons, bind_ok, takeN_append s.length s r rfl, hs, isAscii_of_ascii7 (ascii7_of_printable hp),
    if_true]

theorem field_null (r : List Nat) : field (0 :: r) = .ok .null (nullData r) := by
  simp [field]

theorem field_u32 (r : List Nat) : field (6 :: r) = (u32 r).bind fun v r => .ok (.int v) r := by
  simp [field]

theorem field_u16 (r : List Nat) : field (18 :: r) = (u16 r).bind fun v r => .ok (.int v) r := by
  simp [field]

theorem field_visible (r : List Nat) :
    field (10 :: r) = (visibleString r).bind fun t r' => .ok (.str t) r' := by
  simp [field]

/-- `Select(DateTime, OctedStringText)` -/
theorem field_octet (r : List Nat) : field (9 :: r) =
    match dateTime r with
    | .ok d r' => .ok (.dt d) r'
    | .explicit => .explicit
    | _ => (octetStringText r).bind fun t r' => .ok (.str t) r' := by
  simp only [field, u8_cons, bind_ok, tNull_eq, tInt8_eq, tInt16_eq, tU16_eq, tU32_eq, tOctet_eq]
  cases dateTime r <;> rfl

theorem field_u32_enc (v : Nat) (h : v < 4294967296) (r : List Nat) :
    field ([6] ++ be32 v ++ r) = .ok (.int v) r := by
  rw [List.append_assoc, List.singleton_append, field_u32, u32_be32 v h r, bind_ok]

theorem field_u16_enc (v : Nat) (h : v < 65536) (r : List Nat) :
    field ([18] ++ be16 v ++ r) = .ok (.int v) r := by
  rw [List.append_assoc, List.singleton_append, field_u16, u16_be16 v h r, bind_ok]

theorem field_visible_enc (s : List Nat) (hp : printable s) (r : List Nat) :
    field ([10, s.length] ++ s ++ r) = .ok (.str s) r := by
  simp only [List.cons_append, List.nil_append]
  rw [field_visible, visibleString_enc s (ascii7_of_printable hp) r, bind_ok]

theorem optByte_some (b : Nat) (h : b ≠ 255) : optByte b = some b := by
  simp [optByte, h]

theorem optByte_hund (hs : Option Nat) (h : ∀ x, hs = some x → x ≤ 99) :
    optByte (match (generalizing := false) hs with | some h => h | none => 0xFF) = hs := by
  cases hs with
  | none => rfl
  | some x => exact optByte_some x (by have := h x rfl; omega)

theorem mkDatetime_ok (y mo d h mi s : Nat) (hs : Option Nat) (dev : Option Int)
    (hy : 1 ≤ y ∧ y ≤ 9999) (hmo : 1 ≤ mo ∧ mo ≤ 12) (hd : 1 ≤ d ∧ d ≤ daysInMonth y mo)
    (hh : h ≤ 23) (hmi : mi ≤ 59) (hse : s ≤ 59)
    (hhs : ∀ x, hs = some x → x ≤ 99) (hdev : ∀ v, dev = some v → -1440 < v ∧ v < 1440) :
    mkDatetime y mo d (some h) (some mi) (some s) hs dev =
      .ok { year := y, month := mo, day := d, hour := h, minute := mi, second := s,
            micro := (match hs with | some x => x * 10000 | none => 0),
            tz := dev.map (fun v => -v) } := by
  have h2 : ∀ x, hs = some x → x * 10000 ≤ 999999 := fun x hx => by have := hhs x hx; omega
  unfold mkDatetime
  cases dev <;> cases hs <;> simp [hy, hmo, hd, hh, hmi, hse, hdev, h2]

theorem devDec_dev16 (dv : Option Int) (h : ∀ v, dv = some v → -720 ≤ v ∧ v ≤ 720) :
    devDec (dev16 dv) = dv := by
  cases dv with
  | none => decide
  | some v =>
    have := h v rfl
    have e : (if dev16 (some v) ≥ 32768 then ((dev16 (some v) : Nat) : Int) - 65536 else dev16 (some v)) = v := by
      simp only [dev16]
      split <;> split <;> omega
    simp only [devDec, e]
    rw [if_neg (by omega)]

theorem datetime_exact (d : DateTimeDesc) (h : d.Valid) (rest : List Nat) :
    dateTime (encDateTime d ++ rest) = .ok (expectedDT d) rest := by
  obtain ⟨y, mo, dd, dow, hh, mi, s, hs, dev, st⟩ := d
  obtain ⟨h1, h2, h3, h4, h5, h6, _, h8, h9, h10, h11, h12, _⟩ := h
  simp only at h1 h2 h3 h4 h5 h6 h8 h9 h10 h11 h12
  simp only [encDateTime, List.cons_append, List.nil_append]
  rw [dateTime_cons]
  have split16 : ∀ n : Nat, n / 256 * 256 + n % 256 = n := fun n => by omega
  rw [split16, split16, optByte_some hh (by omega), optByte_some mi (by omega), optByte_some s (by omega)]
  rw [devDec_dev16 dev (by intro v hv; subst hv; exact h12)]
  have hhs : ∀ x, hs = some x → x ≤ 99 := by intro x hx; subst hx; exact h11
  have e11 := optByte_hund hs hhs
  have key := mkDatetime_ok y mo dd hh mi s hs dev ⟨h1, h2⟩ ⟨h3, h4⟩ ⟨h5, h6⟩ h8 h9 h10 hhs
    (by intro v hv; subst hv; simp only at h12; omega)
  -- `encDateTime`, `expectedDT` and the two lemmas each spell the `match` on the hundredths with a
  -- matcher of their own: `rw` takes them for one only once `hs` is a constructor
  cases hs with
  | none =>
    simp only at e11 key ⊢
    rw [e11, key]; rfl
  | some x =>
    simp only at e11 key ⊢
    rw [e11, key]; rfl

theorem datetime_in_field (d : DateTimeDesc) (h : d.Valid) (rest : List Nat) :
    field ([9] ++ encDateTime d ++ rest) = .ok (.dt (expectedDT d)) rest := by
  rw [List.append_assoc, List.singleton_append, field_octet, datetime_exact d h rest]

theorem datetime_in_dateTimeField (d : DateTimeDesc) (h : d.Valid) (rest : List Nat) :
    dateTimeField ([9] ++ encDateTime d ++ rest) = .ok (expectedDT d) rest := by
  simp only [List.cons_append, List.nil_append]
  unfold dateTimeField
  simp only [tOctet_eq, constByte_cons, bind_ok, datetime_exact d h rest]

/-- an octet string of printable characters is text, not a date-time: the month octet would be ≥ 32 -/
theorem field_text_enc (s : List Nat) (hp : printable s) (r : List Nat) :
    field ([9, s.length] ++ s ++ r) = .ok (.str s) r := by
  simp only [List.cons_append, List.nil_append]
  rw [field_octet, octetStringText_enc s hp r]
  cases hd : dateTime (s.length :: (s ++ r)) with
  | ok d r' =>
    obtain ⟨yh, yl, mo, t, hx, _, hmo⟩ := dateTime_ok_inv hd
    obtain ⟨hl, ht⟩ := List.cons.inj hx
    have h3 : (s ++ r)[2]? = some mo := by rw [ht]; rfl
    rw [List.getElem?_append_left (by omega)] at h3
    have := hp mo (List.mem_of_getElem? h3)
    omega
  | soft => rfl
  | explicit => exact absurd hd (dateTime_ne_explicit _)
  | py e => rfl

/-- what `apdu` returns for each form of the APDU date-time (the null form is read with
    `construct.Byte`) -/
def clockOf : ApduClock → ApduDT
  | .null => .byte 0
  | .tagged d => .dt (expectedDT d)
  | .untagged d => .dt (expectedDT d)

/-- the optional date-time of `_get_apdu_struct` (what `apdu` does after the invoke-id) -/
def clockRes (r : List Nat) : Res ApduDT :=
  match r with
  | b :: _ =>
    if b = tNull then (u8 r).bind fun v r' => .ok (.byte v) r'
    else if b = tOctet then (dateTimeField r).bind fun d r' => .ok (.dt d) r'
    else (dateTime r).bind fun d r' => .ok (.dt d) r'
  | [] => (dateTime r).bind fun d r' => .ok (.dt d) r'

theorem apdu_eq {β : Type} (body : List Nat → Res β) (s : List Nat) :
    apdu body s = (u8 s).bind fun _ r => (takeN 4 r).bind fun _ r =>
      (clockRes r).bind fun d r => (body r).bind fun b r' => .ok (d, b) r' := rfl

theorem llc_eq {γ : Type} (body : List Nat → Res γ) (s : List Nat) :
    llc body s = (clockRes (s.drop 8)).bind fun d r => (body r).bind fun b r' => .ok (d, b) r' := by
  rcases s with _ | ⟨a, _ | ⟨b, _ | ⟨c, _ | ⟨t, _ | ⟨i1, _ | ⟨i2, _ | ⟨i3, _ | ⟨i4, r⟩⟩⟩⟩⟩⟩⟩⟩
  case cons.cons.cons.cons.cons.cons.cons.cons => rfl
  all_goals simp [llc, apdu, takeN, u8, Res.bind, clockRes, dateTime_nil]

theorem clockRes_enc (c : ApduClock)
    (hc : match c with | .null => True | .tagged d => d.Valid | .untagged d => d.Valid) (rest : List Nat) :
    clockRes (encApduClock c ++ rest) = .ok (clockOf c) rest := by
  cases c with
  | null => simp [clockRes, encApduClock, clockOf]
  | tagged d =>
    show clockRes (9 :: (encDateTime d ++ rest)) = _
    rw [clockRes, tNull_eq, tOctet_eq, if_neg (by decide), if_pos rfl]
    exact congrArg (Res.bind · _) (datetime_in_dateTimeField d hc rest)
  | untagged d =>
    show clockRes (12 :: _) = _
    rw [clockRes, tNull_eq, tOctet_eq, if_neg (by decide), if_neg (by decide)]
    exact congrArg (Res.bind · _) (datetime_exact d hc rest)

theorem apdu_clock {β : Type} (tag : Nat) (inv : List Nat) (hi : inv.length = 4) (c : ApduClock)
    (hc : match c with | .null => True | .tagged d => d.Valid | .untagged d => d.Valid)
    (body : List Nat → Res β) (rest : List Nat) :
    apdu body (tag :: (inv ++ (encApduClock c ++ rest))) =
      (body rest).bind (fun b r => .ok (clockOf c, b) r) := by
  rw [apdu_eq, u8_cons, bind_ok, takeN_append 4 inv _ hi, bind_ok, clockRes_enc c hc rest, bind_ok]

theorem clockOf_dt {c : ApduClock} (hc : c ≠ .null) : clockOf c = .dt (match (generalizing := false) c with
    | .tagged d => expectedDT d | .untagged d => expectedDT d | .null => default) := by
  cases c with
  | null => exact absurd rfl hc
  | tagged d => rfl
  | untagged d => rfl

theorem llc_clock {β : Type} (hd : Header) (hh : hd.WF) (body : List Nat → Res β) (rest : List Nat) :
    llc body (encHeader hd ++ rest) = (body rest).bind (fun b r => .ok (clockOf hd.clock, b) r) := by
  obtain ⟨h1, h2, h3⟩ := hh
  unfold llc encHeader
  simp only [List.append_assoc, takeN_append 3 hd.llc _ h1, bind_ok, List.cons_append, List.nil_append]
  exact apdu_clock hd.tag hd.invoke h2 hd.clock h3 body rest

end Amshan.CosemDT
