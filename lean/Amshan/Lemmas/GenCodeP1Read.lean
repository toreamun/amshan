import Amshan.Lemmas.GenCodeBase
import Amshan.Lemmas.P1Eqns
import Amshan.GeneratedCodeP1Read
/- `ModeDReader.read(data_chunk)` and the line buffer `_ReaderBuffer` of han/dlde.py against `P1.Buf` and its functions,
   `P1.loop`, `P1.read` of Model/P1.lean.  The state and its abstraction (`p1AbsBuf`, `P1BufInv`) are as for the HDLC
   reader (Lemmas/GenCodeHdlcRead.lean).

   What Python raises is modelled where the model does: `DataReadout(raw)` (`Readout.make`).  `line[0]` and
   `line.decode("ascii")` are total in the translation; the loop proof shows their guards (a popped line is not empty;
   `isascii()` is tested first), under which the model does not raise either. -/
set_option linter.unusedSimpArgs false
set_option linter.unusedVariables false
namespace Amshan.GenLemmas
open Amshan.GenCode Amshan.Gen Amshan.P1 Amshan.Py

def P1BufInv (b : PyBuf) : Prop := b.pos ≤ b.buffer.length

def p1AbsBuf (b : PyBuf) : P1.Buf := { consumed := b.pos, inp := b.buffer.drop b.pos }

def p1AbsReader (r : P1PyReader) : P1.Reader := { buf := p1AbsBuf r.buf, raw := r.raw, hunt := r.hunt }

def P1ReaderInv (r : P1PyReader) : Prop := P1BufInv r.buf

theorem notLf_eq : notLf = fun x => x != p1Lf := rfl
theorem notStart_eq : notStart = fun x => x != p1Start := rfl

theorem p1BufLen_eq (b : PyBuf) (hb : P1BufInv b) : p1BufLen b = (p1AbsBuf b).size := by
  rw [show (p1AbsBuf b).size = b.buffer.length from pos_add_length_drop hb]
  unfold p1BufLen; gen_decide

theorem p1BufExtend_eq (b : PyBuf) (chunk : List Nat) (hb : P1BufInv b) :
    p1AbsBuf (p1BufExtend b chunk) = (p1AbsBuf b).extend chunk ∧ P1BufInv (p1BufExtend b chunk) := by
  unfold p1BufExtend p1AbsBuf Buf.extend P1BufInv at *
  refine ⟨?_, by simp; omega⟩
  simp [List.drop_append_of_le_length hb]

theorem p1BufClear_eq (b : PyBuf) : p1AbsBuf (p1BufClear b) = Buf.empty ∧ P1BufInv (p1BufClear b) := by
  unfold p1BufClear p1AbsBuf Buf.empty P1BufInv
  simp

theorem p1BufTrimToPos_val (b : PyBuf) : p1BufTrimToPos b = { buffer := b.buffer.drop b.pos, pos := 0 } := by
  unfold p1BufTrimToPos
  rcases b with ⟨l, p⟩
  simp <;> gen_decide

theorem p1BufTrimToPos_eq (b : PyBuf) :
    p1AbsBuf (p1BufTrimToPos b) = (p1AbsBuf b).trimToPos ∧ P1BufInv (p1BufTrimToPos b) := by
  rw [p1BufTrimToPos_val]
  simp [p1AbsBuf, Buf.trimToPos, P1BufInv]

theorem p1BufTrimToFlagOrEnd_val (b : PyBuf) :
    p1BufTrimToFlagOrEnd b = { buffer := (b.buffer.drop b.pos).dropWhile notStart, pos := 0 } := by
  unfold p1BufTrimToFlagOrEnd
  simp only [p1BufTrimToPos_val, notStart_eq]
  -- whichever of the tests `p == -1`, `p < 0`, `p > 0`, `p >= 0` the source uses on the answer `p` of `find`
  rcases GenRt.find_cases (b.buffer.drop b.pos) p1Start with ⟨h, hd⟩ | ⟨n, h, hd⟩
  · simp [h, hd] <;> gen_decide
  · have hnn : (0 : Int) ≤ Int.ofNat n := Int.natCast_nonneg n
    simp only [h, hd]
    grind [GenRt.sliceFrom_of_nonneg, GenRt.toNat_ofNat]

theorem p1BufTrimToFlagOrEnd_eq (b : PyBuf) :
    p1AbsBuf (p1BufTrimToFlagOrEnd b) = (p1AbsBuf b).trimToFlagOrEnd ∧ P1BufInv (p1BufTrimToFlagOrEnd b) := by
  rw [p1BufTrimToFlagOrEnd_val]
  simp [p1AbsBuf, Buf.trimToFlagOrEnd, P1BufInv]

theorem p1AbsBuf_of_drop {b : PyBuf} {n : Nat} {inp : List Nat} (hn : b.pos = n) (h : b.buffer.drop n = inp) :
    p1AbsBuf b = ⟨n, inp⟩ := by
  rw [p1AbsBuf, hn, h]

theorem p1BufPop_none (b : PyBuf) (h : (p1AbsBuf b).pop = none) : p1BufPop b = (b, none) := by
  rcases GenRt.findFrom_cases b.buffer p1Lf b.pos with ⟨hf, _⟩ | ⟨a, r, hd, ha, _⟩
  · unfold p1BufPop
    simp [hf] <;> gen_decide
  · have hp : Buf.pop ⟨b.pos, a ++ p1Lf :: r⟩ = _ := pop_some b.pos a r ha
    rw [p1AbsBuf_of_drop rfl hd, hp] at h
    cases h

theorem p1BufPop_some (b : PyBuf) (hb : P1BufInv b) (line : List Nat) (b1 : P1.Buf) (h : (p1AbsBuf b).pop = some (line, b1)) :
    (p1BufPop b).2 = some line ∧ p1AbsBuf (p1BufPop b).1 = b1 ∧ P1BufInv (p1BufPop b).1 := by
  rcases GenRt.findFrom_cases b.buffer p1Lf b.pos with ⟨_, hn⟩ | ⟨a, r, hd, ha, hf⟩
  · rw [pop_none _ hn] at h
    cases h
  · have hp : Buf.pop ⟨b.pos, a ++ p1Lf :: r⟩ = _ := pop_some b.pos a r ha
    rw [p1AbsBuf_of_drop rfl hd, hp] at h
    obtain ⟨rfl, rfl⟩ := Prod.mk.inj (Option.some.inj h)
    obtain ⟨hs, hr⟩ := GenRt.slice_of_drop_eq hd
    have hlen : b.pos + (a.length + 1 + r.length) = b.buffer.length := by
      rw [← pos_add_length_drop hb, hd]; simp; omega
    have hf1 : GenRt.findFrom b.buffer p1Lf b.pos + 1 = Int.ofNat (b.pos + a.length + 1) := by
      rw [hf]; rfl
    unfold p1BufPop
    simp only [hf1, hs]
    have hnn : (0 : Int) ≤ Int.ofNat (b.pos + a.length) := Int.natCast_nonneg _
    have hlt : b.pos < b.buffer.length := by omega
    simp only [hf, hnn, hlt, decide_true, Bool.and_self, if_true]
    try simp only [GenRt.toNat_ofNat]      -- (`Int.toNat (find + 1)`, where the source stores that)
    refine ⟨rfl, ?_, ?_⟩
    · exact p1AbsBuf_of_drop (by gen_decide) hr
    · show _ ≤ b.buffer.length
      gen_decide

/-- what the translated `read` answers (it may raise), seen through the abstraction -/
def p1AbsAnswer (x : Except PyExc (P1PyReader × List Readout)) : Except PyExc (P1.Reader × List Readout) :=
  x.map (fun p => (p1AbsReader p.1, p.2))

def P1AnswerInv (x : Except PyExc (P1PyReader × List Readout)) : Prop :=
  ∀ p, x = .ok p → P1ReaderInv p.1

/-- The `while True:` loop is a recursion on fuel that answers `oof` when the fuel is used up.  For every `oof` and every
    fuel larger than the number of unread octets it is the model's `loop`: an iteration that goes on pops a line (at
    least one octet), so the fuel that `p1RdRead` grants never runs out. -/
theorem p1RdRead_loop_eq (r0 : P1PyReader) (chunk : List Nat) (oof : Except PyExc (P1PyReader × List Readout)) :
    ∀ (fuel : Nat) (buf : PyBuf) (raw : List Nat) (hunt : Bool) (out : List Readout),
      P1BufInv buf → (p1AbsBuf buf).inp.length < fuel →
      p1AbsAnswer (p1RdRead.loop1 r0 chunk oof fuel buf raw hunt out) = P1.loop (p1AbsBuf buf) raw hunt out ∧
        P1AnswerInv (p1RdRead.loop1 r0 chunk oof fuel buf raw hunt out) := by
  intro fuel
  induction fuel with
  | zero => intro buf raw hunt out hb hlt; omega
  | succ n ih =>
    intro buf raw hunt out hb hlt
    unfold p1RdRead.loop1
    cases hpop : (p1AbsBuf buf).pop with
    | none =>
      rw [loop_of_pop_none _ raw hunt out hpop, p1BufPop_none buf hpop]
      refine ⟨by simp [p1AbsAnswer, Except.map, p1AbsReader], ?_⟩
      intro p hp
      simp at hp
      subst hp
      exact hb
    | some lb =>
      rcases lb with ⟨line, b1⟩
      obtain ⟨hline, habs, hinv⟩ := p1BufPop_some buf hb line b1 hpop
      obtain ⟨hne, hinp, _⟩ := pop_eq_some hpop
      rw [loop_of_pop_some _ raw hunt out line b1 hpop]
      have hlt1 : (p1AbsBuf (p1BufPop buf).1).inp.length < n := by
        rw [habs]
        have : (p1AbsBuf buf).inp.length = line.length + b1.inp.length := by rw [hinp]; simp
        have : 0 < line.length := by cases line with | nil => exact absurd rfl hne | cons _ _ => simp
        omega
      have hrec := fun raw1 hunt1 out1 => ih (p1BufPop buf).1 raw1 hunt1 out1 hinv hlt1
      rw [habs] at hrec
      simp only [hline, Option.isSome_some, if_true, Option.getD_some]
      cases line with
      | nil => exact absurd rfl hne
      | cons c t =>
        simp only [List.getD_cons_zero, GenRt.decodeAscii]
        cases hunt with
        | true =>
          rw [handleLine_hunt]
          cases hc : c == p1Start <;> cases hasc : isAscii (c :: t) <;> cases hid : isIdentLine (c :: t) <;>
            simp [hc, hasc, hid] <;> exact hrec _ _ _
        | false =>
          rw [handleLine_collect]
          by_cases hc : c = p1End
          · subst hc
            cases hmk : Readout.make (raw ++ p1End :: t) with
            | error e =>
              simp [hmk, p1AbsAnswer, Except.map, P1AnswerInv]
            | ok ro =>
              have := hrec [] true (out ++ [ro])
              simpa [hmk] using this
          · have := hrec (raw ++ c :: t) false out
            simpa [hc] using this

theorem p1RdRead_eq (r : P1PyReader) (chunk : List Nat) (hr : P1ReaderInv r) :
    p1AbsAnswer (p1RdRead r chunk) = P1.read (p1AbsReader r) chunk ∧ P1AnswerInv (p1RdRead r chunk) := by
  unfold p1RdRead P1.read
  have htp := p1BufTrimToPos_eq r.buf
  have hlen : p1BufLen (p1BufTrimToPos r.buf) = (p1AbsBuf r.buf).inp.length := by
    rw [p1BufLen_eq _ htp.2, htp.1]; simp [Buf.size, Buf.trimToPos]
  have hinpl : (p1AbsBuf r.buf).inp.length ≤ r.buf.buffer.length := by
    simp [p1AbsBuf]
  simp only [hlen, p1AbsReader, Buf.trimToPos]
  by_cases hover : 8191 < (p1AbsBuf r.buf).inp.length + r.raw.length
  · have hcl := p1BufClear_eq (p1BufTrimToPos r.buf)
    have hext := p1BufExtend_eq (p1BufClear (p1BufTrimToPos r.buf)) chunk hcl.2
    have htf := p1BufTrimToFlagOrEnd_eq (p1BufExtend (p1BufClear (p1BufTrimToPos r.buf)) chunk)
    have hle := length_dropWhile_le notStart (p1AbsBuf (p1BufExtend (p1BufClear (p1BufTrimToPos r.buf)) chunk)).inp
    have := p1RdRead_loop_eq r chunk default (r.buf.buffer.length + chunk.length + 1)
      (p1BufTrimToFlagOrEnd (p1BufExtend (p1BufClear (p1BufTrimToPos r.buf)) chunk)) [] true [] htf.2
      (by rw [htf.1]; simp only [Buf.trimToFlagOrEnd]
          rw [hext.1, hcl.1] at hle ⊢
          simp [Buf.extend, Buf.empty] at hle ⊢
          omega)
    rw [htf.1, hext.1, hcl.1] at this
    simpa [hover, p1Guard] using this
  · have hext := p1BufExtend_eq (p1BufTrimToPos r.buf) chunk htp.2
    have hel : (p1AbsBuf (p1BufExtend (p1BufTrimToPos r.buf) chunk)).inp.length ≤ r.buf.buffer.length + chunk.length := by
      rw [hext.1, htp.1]; simp [Buf.extend, Buf.trimToPos]; omega
    by_cases hh : r.hunt = true
    · have htf := p1BufTrimToFlagOrEnd_eq (p1BufExtend (p1BufTrimToPos r.buf) chunk)
      have hle := length_dropWhile_le notStart (p1AbsBuf (p1BufExtend (p1BufTrimToPos r.buf) chunk)).inp
      have := p1RdRead_loop_eq r chunk default (r.buf.buffer.length + chunk.length + 1)
        (p1BufTrimToFlagOrEnd (p1BufExtend (p1BufTrimToPos r.buf) chunk)) r.raw true [] htf.2
        (by rw [htf.1]; simp only [Buf.trimToFlagOrEnd]; omega)
      rw [htf.1, hext.1, htp.1] at this
      simpa [hover, p1Guard, hh, Buf.trimToPos] using this
    · have hf : r.hunt = false := by simpa using hh
      have := p1RdRead_loop_eq r chunk default (r.buf.buffer.length + chunk.length + 1)
        (p1BufExtend (p1BufTrimToPos r.buf) chunk) r.raw false [] hext.2 (by omega)
      rw [hext.1, htp.1] at this
      simpa [hover, p1Guard, hf, Buf.trimToPos] using this

end Amshan.GenLemmas
