import Amshan.Model.AutoDecoder
/-
  The AutoDecoder loop for any decoder table, read in both directions.  Forwards: `tryLoop` passes over
  decoders that raise what the `except` clause catches and stops at the first that accepts.
  Backwards: an `ok` result names the iteration that produced it, and every earlier iteration was a
  rejection.  The theorems of Props/C12 are read off the two readings of `step`.
-/
namespace Amshan.Auto

variable {α β : Type}

def acc (d : Decoder α β) (p : α) : Bool :=
  match d p with
  | .ok _ => true
  | .error _ => false

theorem acc_of_ok {d : Decoder α β} {p : α} {v : β} (h : d p = .ok v) : acc d p = true := by
  simp [acc, h]

theorem acc_of_error {d : Decoder α β} {p : α} {e : PyExc} (h : d p = .error e) : acc d p = false := by
  simp [acc, h]

theorem acc_false_iff {d : Decoder α β} {p : α} : acc d p = false ↔ ∃ e, d p = .error e := by
  unfold acc
  cases d p <;> simp

theorem tryLoop_zero (decs : List (Decoder α β)) (caught : PyExc → Bool) (start : Nat) (p : α)
    (i : Nat) : tryLoop decs caught start p 0 i = .ok none := rfl

theorem tryLoop_succ (decs : List (Decoder α β)) (caught : PyExc → Bool) (start : Nat) (p : α)
    (k i : Nat) : tryLoop decs caught start p (k + 1) i =
      match decs[(i + start) % decs.length]? with
      | none => .error .indexError
      | some dec =>
        match dec p with
        | .ok v => .ok (some ((i + start) % decs.length, v))
        | .error e => if caught e then tryLoop decs caught start p k (i + 1) else .error e := rfl

theorem tryLoop_hit {decs : List (Decoder α β)} (caught : PyExc → Bool) {start : Nat} {p : α} (k : Nat) {i : Nat}
    {d : Decoder α β} {v : β} (hd : decs[(i + start) % decs.length]? = some d) (hv : d p = .ok v) :
    tryLoop decs caught start p (k + 1) i = .ok (some ((i + start) % decs.length, v)) := by
  rw [tryLoop_succ, hd]
  simp only [hv]

theorem tryLoop_skip (decs : List (Decoder α β)) (caught : PyExc → Bool) (start : Nat) (p : α) (k m : Nat)
    (hm : m ≤ decs.length) {n : Nat} (hn : n = k + m) {i : Nat} (h : ∀ j, i ≤ j → j < i + m →
      ∀ d, decs[(j + start) % decs.length]? = some d → ∃ e, d p = .error e ∧ caught e = true) :
    tryLoop decs caught start p n i = tryLoop decs caught start p k (i + m) := by
  subst hn
  induction m generalizing i with
  | zero => rfl
  | succ m ih =>
    have hlt : (i + start) % decs.length < decs.length := Nat.mod_lt _ (by omega)
    obtain ⟨e, he, hc⟩ := h i (Nat.le_refl _) (by omega) _ (List.getElem?_eq_getElem hlt)
    rw [← Nat.add_assoc, tryLoop_succ, List.getElem?_eq_getElem hlt]
    simp only [he, hc, if_true]
    rw [ih (by omega) fun j h1 h2 => h j (by omega) (by omega), Nat.add_assoc, Nat.add_comm 1 m]

/-- an `ok` result was produced at some iteration `j` (`j = i + k`: the loop ran out), and every
    iteration before `j` was a rejection -/
theorem tryLoop_ok (decs : List (Decoder α β)) (caught : PyExc → Bool) (start : Nat) (p : α) (k : Nat) :
    ∀ (i : Nat) {r : Option (Nat × β)}, tryLoop decs caught start p k i = .ok r →
      ∃ j, i ≤ j ∧
        (∀ j', i ≤ j' → j' < j → ∀ d, decs[(j' + start) % decs.length]? = some d → acc d p = false) ∧
        match r with
        | none => j = i + k
        | some (idx, v) => j < i + k ∧ idx = (j + start) % decs.length ∧ ∃ d, decs[idx]? = some d ∧ d p = .ok v := by
  induction k with
  | zero =>
    intro i r h
    cases h
    exact ⟨i, Nat.le_refl _, fun j' h1 h2 => by omega, rfl⟩
  | succ k ih =>
    intro i r h
    rw [tryLoop_succ] at h
    split at h
    · cases h
    · rename_i dec hdec
      split at h
      · rename_i w hw
        cases h
        exact ⟨i, Nat.le_refl _, fun j' h1 h2 => by omega, by omega, rfl, dec, hdec, hw⟩
      · rename_i e he
        split at h
        · obtain ⟨j, hj1, hj2, hj3⟩ := ih (i + 1) h
          refine ⟨j, by omega, fun j' h1 h2 d hd => ?_, ?_⟩
          · by_cases hij : j' = i
            · subst hij
              rw [hdec] at hd
              cases hd
              exact acc_of_error he
            · exact hj2 j' (by omega) h2 d hd
          · match r, hj3 with
            | none, hj3 => exact hj3.trans (by omega)
            | some (idx, v), hj3 => exact ⟨by have := hj3.1; omega, hj3.2⟩
        · cases h

/-- `hk`: a loop that runs at all has a non-empty table, so the index is in range -/
theorem tryLoop_total (decs : List (Decoder α β)) (caught : PyExc → Bool)
    (hc : ∀ e, caught e = true) (start : Nat) (p : α) (k i : Nat) (hk : k ≤ decs.length) :
    ∃ r, tryLoop decs caught start p k i = .ok r := by
  induction k generalizing i with
  | zero => exact ⟨none, rfl⟩
  | succ k ih =>
    rw [tryLoop_succ]
    have hlt : (i + start) % decs.length < decs.length := Nat.mod_lt _ (by omega)
    rw [List.getElem?_eq_getElem hlt]
    simp only
    split
    · exact ⟨_, rfl⟩
    · rename_i e he
      rw [hc e]
      simp only [if_true]
      exact ih (i + 1) (by omega)

theorem cyclic_surj (n start t : Nat) (ht : t < n) : ∃ j, j < n ∧ (j + start) % n = t := by
  have hs : start % n < n := Nat.mod_lt _ (by omega)
  by_cases h : start % n ≤ t
  · refine ⟨t - start % n, by omega, ?_⟩
    rw [← Nat.add_mod_mod, Nat.sub_add_cancel h, Nat.mod_eq_of_lt ht]
  · refine ⟨t + n - start % n, by omega, ?_⟩
    rw [← Nat.add_mod_mod, Nat.sub_add_cancel (by omega), Nat.add_mod_right, Nat.mod_eq_of_lt ht]

theorem step_eq (decs : List (Decoder α β)) (caught : PyExc → Bool) (prev : Option Nat) (p : α) :
    step decs caught prev p =
      match tryLoop decs caught (prev.getD 0) p decs.length 0 with
      | .ok (some (idx, v)) => .ok (some idx, some v)
      | .ok none => .ok (prev, none)
      | .error e => .error e := by
  cases prev <;> rfl

theorem step_total (decs : List (Decoder α β)) (caught : PyExc → Bool) (hc : ∀ e, caught e = true)
    (prev : Option Nat) (p : α) : ∃ r, step decs caught prev p = .ok r := by
  obtain ⟨r, hr⟩ := tryLoop_total decs caught hc (prev.getD 0) p decs.length 0 (Nat.le_refl _)
  rw [step_eq, hr]
  cases r with
  | none => exact ⟨_, rfl⟩
  | some iv => exact ⟨_, rfl⟩

/-- the result comes from the first decoder, in cyclic order from the remembered one, that does not
    raise (`j` counts from the remembered index; `j = decs.length`: there is none) -/
theorem step_ok {decs : List (Decoder α β)} {caught : PyExc → Bool} {prev prev' : Option Nat} {p : α} {r : Option β}
    (h : step decs caught prev p = .ok (prev', r)) :
    ∃ j, (∀ j', j' < j → ∀ d, decs[(j' + prev.getD 0) % decs.length]? = some d → acc d p = false) ∧
      match r with
      | none => j = decs.length ∧ prev' = prev
      | some v => j < decs.length ∧ prev' = some ((j + prev.getD 0) % decs.length) ∧
          ∃ d, decs[(j + prev.getD 0) % decs.length]? = some d ∧ d p = .ok v := by
  rw [step_eq] at h
  split at h
  · rename_i idx v ht
    cases h
    obtain ⟨j, _, hrej, hj, rfl, hd⟩ := tryLoop_ok decs caught _ p _ 0 ht
    exact ⟨j, fun j' hj' => hrej j' (Nat.zero_le _) hj', by omega, rfl, hd⟩
  · rename_i ht
    cases h
    obtain ⟨j, _, hrej, rfl⟩ := tryLoop_ok decs caught _ p _ 0 ht
    exact ⟨_, fun j' hj' => hrej j' (Nat.zero_le _) hj', Nat.zero_add _, rfl⟩
  · cases h

theorem step_of_first (decs : List (Decoder α β)) (caught : PyExc → Bool) (prev : Option Nat) (p : α) {j idx : Nat}
    {d : Decoder α β} {v : β} (hj : j < decs.length) (hidx : (j + prev.getD 0) % decs.length = idx)
    (hd : decs[idx]? = some d) (hv : d p = .ok v) (hrej : ∀ j', j' < j →
      ∀ d', decs[(j' + prev.getD 0) % decs.length]? = some d' → ∃ e, d' p = .error e ∧ caught e = true) :
    step decs caught prev p = .ok (some idx, some v) := by
  subst hidx
  rw [step_eq, tryLoop_skip decs caught _ p (decs.length - j - 1 + 1) j (by omega) (by omega)
    fun j' _ h => hrej j' (by omega), Nat.zero_add, tryLoop_hit caught _ hd hv]

theorem step_remembered (decs : List (Decoder α β)) (caught : PyExc → Bool) {i : Nat} {d : Decoder α β} {p : α}
    {v : β} (hi : decs[i]? = some d) (hv : d p = .ok v) : step decs caught (some i) p = .ok (some i, some v) := by
  have hlt : i < decs.length := (List.getElem?_eq_some_iff.1 hi).1
  exact step_of_first decs caught (some i) p (j := 0) (by omega) (by rw [Nat.zero_add]; exact Nat.mod_eq_of_lt hlt)
    hi hv fun _ h => absurd h (Nat.not_lt_zero _)

theorem step_fresh_k (decs : List (Decoder α β)) (caught : PyExc → Bool)
    (p : α) (k : Nat) (d : Decoder α β) (v : β) (hk : decs[k]? = some d) (hv : d p = .ok v)
    (hrej : ∀ j, j < k → ∀ d', decs[j]? = some d' → ∃ e, d' p = .error e ∧ caught e = true) :
    step decs caught none p = .ok (some k, some v) := by
  have hlt : k < decs.length := (List.getElem?_eq_some_iff.1 hk).1
  have hm : ∀ {j}, j ≤ k → (j + (none : Option Nat).getD 0) % decs.length = j := fun hj =>
    Nat.mod_eq_of_lt (Nat.lt_of_le_of_lt hj hlt)
  exact step_of_first decs caught none p hlt (hm (Nat.le_refl k)) hk hv fun j hj d' hd' =>
    hrej j hj d' (hm (Nat.le_of_lt hj) ▸ hd')

theorem step_junk (decs : List (Decoder α β)) (caught : PyExc → Bool) (hc : ∀ e, caught e = true)
    (prev : Option Nat) (p : α) (h : ∀ d ∈ decs, acc d p = false) : step decs caught prev p = .ok (prev, none) := by
  rw [step_eq, tryLoop_skip decs caught _ p 0 decs.length (Nat.le_refl _) (Nat.zero_add _).symm fun j _ _ d hd => ?_]
  · rfl
  · obtain ⟨e, he⟩ := acc_false_iff.1 (h d (List.mem_of_getElem? hd))
    exact ⟨e, he, hc e⟩

/-- the scan visits the whole table (`cyclic_surj`) -/
theorem all_reject_of_none {decs : List (Decoder α β)} {caught : PyExc → Bool} {prev prev' : Option Nat} {p : α}
    (h : step decs caught prev p = .ok (prev', none)) : ∀ d ∈ decs, acc d p = false := by
  intro d hd
  obtain ⟨_, hrej, rfl, _⟩ := step_ok h
  obtain ⟨t, ht, hdt⟩ := List.getElem_of_mem hd
  obtain ⟨j, hj, hjt⟩ := cyclic_surj decs.length (prev.getD 0) t ht
  exact hrej j hj d (by rw [hjt, List.getElem?_eq_getElem ht, hdt])

/-- every decoder of the list raises on `p`; for a table written out, a tuple of the facts in table
    order (ending in `trivial`) -/
def AllRej (p : α) : List (Decoder α β) → Prop
  | [] => True
  | d :: ds => (∃ e, d p = .error e) ∧ AllRej p ds

theorem AllRej.of_mem {p : α} : ∀ {ds : List (Decoder α β)}, AllRej p ds →
    ∀ {d : Decoder α β}, d ∈ ds → ∃ e, d p = .error e
  | _ :: _, h, _, hd => by
    rcases List.mem_cons.1 hd with rfl | hd
    · exact h.1
    · exact h.2.of_mem hd

theorem AllRej.of_getElem? {p : α} {ds : List (Decoder α β)} (h : AllRej p ds) {j : Nat} {d : Decoder α β}
    (hd : ds[j]? = some d) : ∃ e, d p = .error e :=
  h.of_mem (List.mem_of_getElem? hd)

theorem step_fresh_append {caught : PyExc → Bool} (hc : ∀ e, caught e = true) {pre post : List (Decoder α β)}
    {d : Decoder α β} {p : α} {v : β} (hpre : AllRej p pre) (hv : d p = .ok v) :
    step (pre ++ d :: post) caught none p = .ok (some pre.length, some v) := by
  refine step_fresh_k _ caught p pre.length d v (by simp) hv fun j hj d' hd' => ?_
  rw [List.getElem?_append_left hj] at hd'
  obtain ⟨e, he⟩ := hpre.of_getElem? hd'
  exact ⟨e, he, hc e⟩

theorem step_unique_append {caught : PyExc → Bool} (hc : ∀ e, caught e = true) {pre post : List (Decoder α β)}
    (d : Decoder α β) (prev : Option Nat) {p : α} (hpre : AllRej p pre) (hpost : AllRej p post) :
    step (pre ++ d :: post) caught prev p =
      match d p with
      | .ok v => .ok (some pre.length, some v)
      | .error _ => .ok (prev, none) := by
  obtain ⟨⟨prev', r⟩, hr⟩ := step_total (pre ++ d :: post) caught hc prev p
  rw [hr]
  cases r with
  | none =>
    obtain ⟨_, _, _, rfl⟩ := step_ok hr
    obtain ⟨e, he⟩ := acc_false_iff.1 (all_reject_of_none hr d (by simp))
    rw [he]
  | some v =>
    obtain ⟨j, _, _, rfl, d', hd', hv⟩ := step_ok hr
    generalize (j + prev.getD 0) % (pre ++ d :: post).length = idx at hd' ⊢
    -- the entry that answered is none of `pre` and none of `post`
    rcases Nat.lt_trichotomy idx pre.length with hlt | rfl | hgt
    · rw [List.getElem?_append_left hlt] at hd'
      obtain ⟨e, he⟩ := hpre.of_getElem? hd'
      rw [he] at hv
      cases hv
    · rw [List.getElem?_append_right (Nat.le_refl _), Nat.sub_self] at hd'
      cases hd'
      rw [hv]
    · obtain ⟨m, hm⟩ : ∃ m, idx - pre.length = m + 1 := ⟨idx - pre.length - 1, by omega⟩
      rw [List.getElem?_append_right (by omega), hm, List.getElem?_cons_succ] at hd'
      obtain ⟨e, he⟩ := hpost.of_getElem? hd'
      rw [he] at hv
      cases hv

theorem runHistory_snoc (decs : List (Decoder α β)) (caught : PyExc → Bool) (prev : Option Nat)
    (ps : List α) (p : α) :
    runHistory decs caught prev (ps ++ [p]) =
      match runHistory decs caught prev ps with
      | .error e => .error e
      | .ok (prevMid, rs) =>
        match step decs caught prevMid p with
        | .error e => .error e
        | .ok (prev', r) => .ok (prev', rs ++ [r]) := by
  induction ps generalizing prev with
  | nil =>
    simp only [List.nil_append, runHistory]
    cases step decs caught prev p with
    | error e => rfl
    | ok r => rfl
  | cons q ps ih =>
    simp only [List.cons_append, runHistory]
    cases hq : step decs caught prev q with
    | error e => rfl
    | ok r =>
      obtain ⟨prev1, r1⟩ := r
      simp only
      rw [ih]
      cases runHistory decs caught prev1 ps with
      | error e => rfl
      | ok x =>
        obtain ⟨pm, rs⟩ := x
        simp only
        cases step decs caught pm p with
        | error e => rfl
        | ok y => rfl

theorem runHistory_cons_of_step (decs : List (Decoder α β)) (caught : PyExc → Bool) {prev prev1 : Option Nat}
    {p : α} (ps : List α) {r : Option β} (h : step decs caught prev p = .ok (prev1, r)) :
    runHistory decs caught prev (p :: ps) =
      match runHistory decs caught prev1 ps with
      | .error e => .error e
      | .ok (prev2, rs) => .ok (prev2, r :: rs) := by
  rw [runHistory, h]
  rfl

theorem step_remembered_of_fresh {decs : List (Decoder α β)} {caught : PyExc → Bool} {k : Nat} {p : α} {v : β}
    (h : step decs caught none p = .ok (some k, some v)) : step decs caught (some k) p = .ok (some k, some v) := by
  obtain ⟨j, _, _, hk, d, hd, hv⟩ := step_ok h
  cases hk
  exact step_remembered decs caught hd hv

variable {μ : Type}

/-- `exp q = some v`: a fresh AutoDecoder gives `enc q` to decoder `k`; `exp q = none`: nobody takes it,
    whatever is remembered.  Stated for a start that is fresh or remembers `k`: the induction needs
    both -/
theorem runHistory_of_fresh_junk (decs : List (Decoder α β)) (caught : PyExc → Bool)
    (k : Nat) (enc : μ → α) (exp : μ → Option β) :
    ∀ (ms : List μ) (prev : Option Nat), prev = none ∨ prev = some k →
      (∀ q ∈ ms, (∃ v, exp q = some v ∧ step decs caught none (enc q) = .ok (some k, some v)) ∨
        (exp q = none ∧ ∀ prev, step decs caught prev (enc q) = .ok (prev, none))) →
      runHistory decs caught prev (ms.map enc) =
        .ok (if ms.any (fun q => (exp q).isSome) then some k else prev, ms.map exp) := by
  intro ms
  induction ms with
  | nil => intro _ _ _; rfl
  | cons m ms ih =>
    intro prev hprev h
    have hrest := fun q hq => h q (List.mem_cons_of_mem _ hq)
    rcases h m List.mem_cons_self with ⟨v, hv, hm⟩ | ⟨hn, hs⟩
    · have hs : step decs caught prev (enc m) = .ok (some k, some v) := by
        rcases hprev with rfl | rfl
        · exact hm
        · exact step_remembered_of_fresh hm
      rw [List.map_cons, runHistory_cons_of_step decs caught _ hs, ih (some k) (.inr rfl) hrest]
      simp only [List.map_cons, List.any_cons, hv, Option.isSome_some, Bool.true_or, if_true, ite_self]
    · rw [List.map_cons, runHistory_cons_of_step decs caught _ (hs prev), ih prev hprev hrest]
      simp only [List.map_cons, List.any_cons, hn, Option.isSome_none, Bool.false_or]

theorem runHistory_of_fresh (decs : List (Decoder α β)) (caught : PyExc → Bool) (k : Nat)
    (enc : μ → α) (exp : μ → β) (ms : List μ) (hne : ms ≠ [])
    (hfresh : ∀ q ∈ ms, step decs caught none (enc q) = .ok (some k, some (exp q))) :
    runHistory decs caught none (ms.map enc) = .ok (some k, ms.map fun q => some (exp q)) := by
  rw [runHistory_of_fresh_junk decs caught k enc (fun q => some (exp q)) ms none (.inl rfl)
    fun q hq => .inl ⟨_, rfl, hfresh q hq⟩]
  cases ms with
  | nil => exact absurd rfl hne
  | cons m ms => rfl

end Amshan.Auto

namespace Amshan.DecOwnMore
open Amshan.Auto
variable {α β : Type}

theorem runHistory_nil (decs : List (Decoder α β)) (caught : PyExc → Bool) (prev : Option Nat) :
    runHistory decs caught prev [] = .ok (prev, []) := rfl

end Amshan.DecOwnMore
