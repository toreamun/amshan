import Amshan.Lemmas.FloatBoundBase
/-
  `ofRat` in the normal range is: divide at a scale 2^e that gives a 53-bit quotient, round half-even,
  renormalise a carry.  From that: relative error at most 2^-53, and exactness on integers below 2^53.
-/
namespace Amshan.Flt

/-- `ofRat` without pattern-matching lets -/
theorem ofRat_eq (neg : Bool) (num den : Nat) (hn : num ≠ 0) (hd : den ≠ 0) :
    ofRat neg num den =
      (let e0 : Int := (Nat.log2 num : Int) - (Nat.log2 den : Int) - 52
       let q0 := (scaledDiv num den e0).1
       let e1 : Int := if q0 ≥ 2 ^ 53 then e0 + 1 else if q0 < 2 ^ 52 then e0 - 1 else e0
       let e : Int := if e1 < -1074 then -1074 else e1
       let m := roundHalfEven (scaledDiv num den e).1 (scaledDiv num den e).2
       if m = 2 ^ 53 then (if e + 1 > 971 then .inf neg else .fin neg (2 ^ 52) (e + 1))
       else (if e > 971 then .inf neg else .fin neg m e)) := by
  unfold ofRat
  have : (num = 0 || den = 0) = false := by simp [hn, hd]
  rw [this]
  simp only [Bool.false_eq_true, if_false]
  generalize roundHalfEven _ _ = m0
  generalize (if _ < (-1074 : Int) then (-1074 : Int) else _) = e
  by_cases h : m0 = 2 ^ 53
  · simp only [if_pos h]
  · simp only [if_neg h]

theorem sdVal_succ (num den : Nat) (t : Int) : sdVal num den (t + 1) = sdVal num den t / 2 := by
  rw [sdVal, sdVal, show -(t + 1) = -t - 1 by ring, zpow_sub_one₀ (by norm_num : (2 : ℚ) ≠ 0)]
  ring

theorem sdVal_pred (num den : Nat) (t : Int) : sdVal num den (t - 1) = sdVal num den t * 2 := by
  rw [sdVal, sdVal, show -(t - 1) = -t + 1 by ring, zpow_add_one₀ (by norm_num : (2 : ℚ) ≠ 0)]
  ring

/-- the first exponent guess puts the scaled quotient at or above 2^51 -/
theorem sdVal_e0_ge (num den : Nat) (hn : 0 < num) (hd : 0 < den) :
    (2 : ℚ) ^ 51 ≤ sdVal num den ((Nat.log2 num : Int) - (Nat.log2 den : Int) - 52) := by
  have hA : ((2 : ℚ) ^ Nat.log2 num) ≤ num := by exact_mod_cast Nat.log2_self_le hn.ne'
  have hB : (den : ℚ) ≤ 2 ^ (Nat.log2 den + 1) := by exact_mod_cast (Nat.lt_log2_self (n := den)).le
  have hd' : (0 : ℚ) < den := by exact_mod_cast hd
  have h2 : (2 : ℚ) ≠ 0 := two_ne_zero
  -- num/den ≥ 2^a / 2^(b+1), and 2^(a-b-1) · 2^(-(a-b-52)) = 2^51
  have h1 : (2 : ℚ) ^ ((Nat.log2 num : Int) - ((Nat.log2 den + 1 : Nat) : Int)) ≤ (num : ℚ) / den := by
    rw [zpow_sub₀ h2, zpow_natCast, zpow_natCast]
    exact div_le_div₀ (Nat.cast_nonneg _) hA hd' hB
  have h51 : (2 : ℚ) ^ 51 = (2 : ℚ) ^ ((Nat.log2 num : Int) - ((Nat.log2 den + 1 : Nat) : Int)) *
      (2 : ℚ) ^ (-((Nat.log2 num : Int) - (Nat.log2 den : Int) - 52)) := by
    rw [← zpow_add₀ h2, ← zpow_natCast]; congr 1; push_cast; ring
  rw [sdVal, h51]
  exact mul_le_mul_of_nonneg_right h1 (zpow_nonneg (by norm_num) _)

theorem log2_lt_of_le_mul {x y W : Nat} (hx : 0 < x) (h : x ≤ y * 2 ^ W) :
    Nat.log2 x < Nat.log2 y + 1 + W := by
  have : 2 ^ Nat.log2 x < 2 ^ (Nat.log2 y + 1 + W) :=
    calc 2 ^ Nat.log2 x ≤ x := Nat.log2_self_le hx.ne'
      _ ≤ y * 2 ^ W := h
      _ < 2 ^ (Nat.log2 y + 1) * 2 ^ W := Nat.mul_lt_mul_of_pos_right Nat.lt_log2_self (pow_pos (by norm_num) W)
      _ = 2 ^ (Nat.log2 y + 1 + W) := (pow_add ..).symm
  exact (Nat.pow_lt_pow_iff_right (by norm_num)).mp this

/-- the model's last step: a mantissa rounded up to 2^53 becomes 2^52 at the next exponent, the same value -/
theorem carry_fin (neg : Bool) (r : Nat) (e : Int) (hr : 2 ^ 52 ≤ r) :
    ∃ (m : Nat) (e' : Int),
      (if r = 2 ^ 53 then F.fin neg (2 ^ 52) (e + 1) else F.fin neg r e) = .fin neg m e' ∧
      2 ^ 52 ≤ m ∧ (m : ℚ) * (2 : ℚ) ^ e' = (r : ℚ) * (2 : ℚ) ^ e := by
  split
  · next h =>
    refine ⟨_, _, rfl, le_refl _, ?_⟩
    rw [h, zpow_add_one₀ (by norm_num : (2 : ℚ) ≠ 0)]
    push_cast
    ring
  · exact ⟨_, _, rfl, hr, rfl⟩

/-- For a quotient between 2^-1021 and 2^1021 (the bounds that keep the unit exponent `e` within
    [-1074, 970], clear of the subnormal clamp and of overflow) `ofRat` is: divide at scale `2^e` so that the
    quotient has 53 bits, round half-even, renormalise a carry. -/
theorem ofRat_struct (num den : Nat) (hn : 0 < num) (hd : 0 < den)
    (hlo : den ≤ num * 2 ^ 1021) (hhi : num ≤ den * 2 ^ 1021) :
    Normal (ofRat false num den) ∧ ∃ e : Int, 2 ^ 52 ≤ (scaledDiv num den e).1 ∧
      val (ofRat false num den) =
        (roundHalfEven (scaledDiv num den e).1 (scaledDiv num den e).2 : ℚ) * (2 : ℚ) ^ e := by
  have hab1 := log2_lt_of_le_mul hd hlo
  have hab2 := log2_lt_of_le_mul hn hhi
  have hx0 := sdVal_e0_ge num den hn hd
  set a := Nat.log2 num
  set b := Nat.log2 den
  set e0 : Int := (a : Int) - (b : Int) - 52 with he0
  have hf0 := sd_floor num den e0 hd
  set q0 := (scaledDiv num den e0).1 with hq0
  obtain ⟨e1, he1, hlo1, hhi1, hx1⟩ : ∃ e1 : Int,
      e1 = (if q0 ≥ 2 ^ 53 then e0 + 1 else if q0 < 2 ^ 52 then e0 - 1 else e0) ∧
      -1074 ≤ e1 ∧ e1 ≤ 970 ∧ (2 : ℚ) ^ 52 ≤ sdVal num den e1 := by
    refine ⟨_, rfl, ?_, ?_, ?_⟩
    · split_ifs <;> omega
    · split_ifs <;> omega
    · split_ifs with h1 h2
      · rw [sdVal_succ]
        have : ((2 : ℚ) ^ 53) ≤ q0 := by exact_mod_cast h1
        have e : (2 : ℚ) ^ 53 = 2 * 2 ^ 52 := by norm_num
        linarith [hf0.1]
      · rw [sdVal_pred]
        have e : (2 : ℚ) ^ 52 = 2 * 2 ^ 51 := by norm_num
        linarith
      · have : ((2 : ℚ) ^ 52) ≤ q0 := by exact_mod_cast (not_lt.mp h2)
        linarith [hf0.1]
  have hf1 := sd_floor num den e1 hd
  have hq : 2 ^ 52 ≤ (scaledDiv num den e1).1 := by
    have h : ((2 : ℚ) ^ 52) < ((scaledDiv num den e1).1 : ℚ) + 1 := lt_of_le_of_lt hx1 hf1.2
    have h' : 2 ^ 52 < (scaledDiv num den e1).1 + 1 := by exact_mod_cast h
    omega
  obtain ⟨m, e', hc, hm, hval⟩ := carry_fin false _ e1 (le_trans hq (roundHalfEven_ge _ (scaledDiv num den e1).2))
  have heq : ofRat false num den = .fin false m e' := by
    rw [ofRat_eq false num den hn.ne' hd.ne', ← hc]
    dsimp only
    rw [← he0, ← hq0, ← he1, if_neg (not_lt.mpr hlo1)]
    have h1 : ¬ (e1 + 1 > 971) := by omega
    have h2 : ¬ (e1 > 971) := by omega
    rw [if_neg h1, if_neg h2]
  exact ⟨⟨m, e', heq, hm⟩, e1, hq, by rw [heq, val_fin_false, hval]⟩

/-- the rounding moves a quotient of at least 2^52 by at most 1/2, which is at most 2^-53 of it -/
theorem ofRat_near (num den : Nat) (hn : 0 < num) (hd : 0 < den)
    (hlo : (1 : ℚ) / 2 ^ 1021 ≤ (num : ℚ) / den) (hhi : (num : ℚ) / den ≤ 2 ^ 1021) :
    Normal (ofRat false num den) ∧
      |val (ofRat false num den) - (num : ℚ) / den| ≤ (num : ℚ) / den / 2 ^ 53 := by
  have hd' : (0 : ℚ) < den := by exact_mod_cast hd
  obtain ⟨hN, e, hq, hval⟩ := ofRat_struct num den hn hd
    (by rw [div_le_div_iff₀ (by positivity) hd', one_mul] at hlo; exact_mod_cast hlo)
    (by rw [div_le_iff₀ hd', mul_comm] at hhi; exact_mod_cast hhi)
  rw [hval]
  refine ⟨hN, ?_⟩
  have hX : (2 : ℚ) ^ 52 ≤ sdVal num den e := le_trans (by exact_mod_cast hq) (sd_floor num den e hd).1
  have hx : (num : ℚ) / den = sdVal num den e * (2 : ℚ) ^ e := by
    rw [sdVal, mul_assoc, ← zpow_add₀ (by norm_num : (2 : ℚ) ≠ 0), neg_add_cancel, zpow_zero, mul_one]
  have hhalf : (1 : ℚ) / 2 ≤ sdVal num den e / 2 ^ 53 := by
    rw [le_div_iff₀ (by positivity)]; linarith
  rw [hx]
  exact near_scale _ (zpow_nonneg (by norm_num) e) (le_trans (sd_round num den e hd) hhalf)

theorem scaledDiv_one_nonpos (v k : Nat) : scaledDiv v 1 (-(k : Int)) = (v * 2 ^ k, 0) := by
  rcases Nat.eq_zero_or_pos k with rfl | hk
  · simp [scaledDiv, Nat.mod_one]
  · have : k ≠ 0 := by omega
    simp [scaledDiv, this, Nat.mod_one]

theorem ofNat_exact (v : Nat) (hv0 : 0 < v) (hv : v < 2 ^ 53) : Normal (ofNat v) ∧ val (ofNat v) = v := by
  obtain ⟨hN, e, hq, hval⟩ := ofRat_struct v 1 hv0 Nat.one_pos
    -- `pow_pos`, `pow_le_pow_right₀` and not `positivity` or the `Nat.` lemmas: those meet another `Pow ℕ` instance,
    -- and unifying the two makes Lean try to evaluate 2^1021 (a warning: over `exponentiation.threshold`)
    (Nat.mul_pos hv0 (pow_pos (by norm_num) 1021))
    (le_trans hv.le (by rw [Nat.one_mul]; exact pow_le_pow_right₀ (by norm_num) (by norm_num)))
  rw [ofNat, hval]
  refine ⟨hN, ?_⟩
  -- the quotient has 53 bits and `v` has at most 53, so the scale is not coarser than 1: no bit is lost
  have he : e ≤ 0 := by
    by_contra hc
    have h2 : (2 : ℚ) ^ (-e) ≤ 2 ^ (-1 : Int) := zpow_le_zpow_right₀ (by norm_num) (by omega)
    have hX : sdVal v 1 e ≤ v / 2 := by
      rw [sdVal, Nat.cast_one, div_one, div_eq_mul_inv, ← zpow_neg_one]
      exact mul_le_mul_of_nonneg_left h2 (by positivity)
    have hq' : (2 : ℚ) ^ 52 ≤ sdVal v 1 e := le_trans (by exact_mod_cast hq) (sd_floor v 1 e Nat.one_pos).1
    have hv' : (v : ℚ) < 2 ^ 53 := by exact_mod_cast hv
    linarith
  obtain ⟨k, rfl⟩ := Int.exists_eq_neg_ofNat he
  rw [scaledDiv_one_nonpos, show roundHalfEven (v * 2 ^ k) 0 = v * 2 ^ k from rfl, zpow_neg, zpow_natCast]
  push_cast
  exact mul_inv_cancel_right₀ (pow_ne_zero k two_ne_zero) _

end Amshan.Flt
