import Amshan.Lemmas.GenCodeBase
import Amshan.GeneratedCodeFcs
import Amshan.Model.Fcs
/- han/fastframecheck.py.  The table generator is evaluated by the kernel (a fixed table); `compute_checksum` may loop
   over the indices or over the offsets from `start`, so `fcsComputeChecksum_eq` tries a reference loop for each. -/
set_option linter.unusedSimpArgs false   -- simp sets are deliberately wider than one spelling of the source needs
namespace Amshan.GenLemmas
open Amshan.GenCode Amshan.Gen

/-- 256 × 8 iterations -/
theorem computeFcsTable_eq : computeFcsTable = fcsTable := by
  set_option maxRecDepth 8192 in decide +kernel

theorem fcsNext_eq (crc byte : Nat) : fcsNext crc byte = Fcs.next crc byte := by
  unfold fcsNext Fcs.next; gen_decide

theorem fcsChecksum_eq (r : Nat) : fcsChecksum r = Fcs.checksum r := by
  unfold fcsChecksum Fcs.checksum fcsComplement; gen_decide

theorem fcsIsGood_eq (r : Nat) : fcsIsGood r = Fcs.isGood r := by
  unfold fcsIsGood Fcs.isGood; gen_decide

theorem computeLoop_eq_foldl (data : List Nat) (n i fcs : Nat) (h : i + n ≤ data.length) :
    Fcs.computeLoop data i n fcs = .ok (Fcs.feed fcs ((List.range' i n).map (fun j => data.getD j 0))) := by
  induction n generalizing i fcs with
  | zero => rfl
  | succ n ih =>
    have hi : i < data.length := by omega
    simp only [Fcs.computeLoop, List.getElem?_eq_getElem hi]
    rw [ih (i + 1) _ (by omega)]
    simp [Fcs.feed, List.range'_succ, Fcs.next, List.getD_eq_getElem?_getD, List.getElem?_eq_getElem hi]

theorem range'_eq_map_offset (start n : Nat) : List.range' start n = (List.range' 0 n).map (fun i => i + start) := by
  rw [List.range'_eq_map_range, ← List.range_eq_range']
  exact List.map_congr_left (fun i _ => Nat.add_comm _ _)

theorem fcsComputeChecksum_eq (data : List Nat) (start len : Nat) (h : start + len ≤ data.length) :
    Fcs.computeChecksum data start len = .ok (fcsComputeChecksum data start len) := by
  unfold Fcs.computeChecksum
  rw [computeLoop_eq_foldl data len start fcsInit h]
  have key : fcsComputeChecksum data start len
      = Fcs.feed fcsInit ((List.range' start len).map (fun j => data.getD j 0)) ^^^ 0xFFFF := by
    unfold fcsComputeChecksum
    try simp only [Nat.add_sub_cancel, Nat.add_sub_cancel_left]
    first
    | -- the source loops over the indices start .. start + length - 1
      (rw [foldl_step_eq (g := fun c j => Fcs.next c (data.getD j 0))]
       · simp only [Fcs.feed, List.foldl_map] <;> gen_decide
       · intro c j; (try simp only [fcsNext_eq]) <;> (try unfold Fcs.next) <;> gen_decide)
    | -- the source loops over the offsets 0 .. length - 1
      (rw [foldl_step_eq (g := fun c i => Fcs.next c (data.getD (i + start) 0))]
       · simp only [Fcs.feed, List.foldl_map, range'_eq_map_offset start len, List.map_map, Function.comp_def] <;> gen_decide
       · intro c j; (try simp only [fcsNext_eq]) <;> (try unfold Fcs.next) <;> gen_decide)
  rw [key]

end Amshan.GenLemmas
