import Amshan.Lemmas.GenCodeBase
import Amshan.GeneratedCodeP1
import Amshan.Model.P1
/- `DataReadout._calculate_crc16` (han/dlde.py): a fold over the bytes around a fold over 8 bit steps, each compared with
   the model's `crcByte` / `crcBit` by `foldl_step_eq`.  The bit step is split on `s % 2` for sources that test the low
   bit by arithmetic (`crc % 2`). -/
set_option linter.unusedSimpArgs false   -- simp sets are deliberately wider than one spelling of the source needs
namespace Amshan.GenLemmas
open Amshan.GenCode Amshan.Gen

theorem crcBits_eq_iter (n c : Nat) : P1.crcBits n c = iter P1.crcBit n c := by
  induction n generalizing c with
  | zero => rfl
  | succ n ih => simp [P1.crcBits, iter, ih]

theorem p1CalculateCrc16_eq (readout : List Nat) (endPos : Nat) :
    p1CalculateCrc16 readout endPos = P1.crc16 (readout.take (endPos + 1)) := by
  unfold p1CalculateCrc16 P1.crc16
  try simp only [List.drop_zero]
  rw [foldl_step_eq (g := P1.crcByte)]
  intro c b
  rw [foldl_step_eq (g := fun s _ => P1.crcBit s)]
  · rw [foldl_range'_const, P1.crcByte, crcBits_eq_iter]; gen_decide
  · intro s _
    have hbit := Nat.mod_two_eq_zero_or_one s
    unfold P1.crcBit crc16Poly
    first
    | grind
    | (rcases hbit with hbit | hbit <;> simp [and_mask1, mask1_and, hbit] <;> gen_decide)

end Amshan.GenLemmas
