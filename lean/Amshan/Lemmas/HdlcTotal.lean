import Amshan.Lemmas.HdlcRun
/-
  C14 (HDLC): every partial primitive of `Model/HdlcExc.lean` is guarded — the Except-valued
  functions return `.ok` of the pure model (`Model/Hdlc.lean`).
-/
namespace Amshan.Hdlc
open Amshan.Gen

theorem pyIndex_of_lt (xs : List Nat) (i : Nat) (h : i < xs.length) : pyIndex xs i = .ok xs[i] := by
  simp only [pyIndex, List.getElem?_eq_getElem h]

theorem pyIndex_of_some {xs : List Nat} {i x : Nat} (h : xs[i]? = some x) : pyIndex xs i = .ok x := by
  simp only [pyIndex, h]

theorem pyLastViaSlice_of_some {xs : List Nat} {x : Nat} (h : xs.getLast? = some x) :
    pyLastViaSlice xs = .ok x := by
  simp only [pyLastViaSlice, h]

theorem exists_getLast?_of_length_gt_one {xs : List Nat} (h : xs.length > 1) : ∃ x, xs.getLast? = some x := by
  cases xs with
  | nil => simp at h
  | cons a t => exact ⟨_, List.getLast?_eq_some_getLast (List.cons_ne_nil a t)⟩

@[simp] theorem ok_bind {α β : Type} (a : α) (g : α → Except PyExc β) :
    (Except.ok a >>= g) = g a := rfl

@[simp] theorem pure_eq_ok {α : Type} (a : α) : (pure a : Except PyExc α) = .ok a := rfl

theorem Frame.frameFormatE_ok (f : Frame) : f.frameFormatE = .ok f.frameFormat := by
  unfold Frame.frameFormatE Frame.frameFormat Frame.len
  cases hd : f.data with
  | nil => simp
  | cons a t =>
    cases t with
    | nil => simp
    | cons b t => simp [pyIndex]

theorem getAddressLoopE_ok (d : List Nat) (fuel i : Nat) (adr : List Nat)
    (h : fuel ≥ d.length - i + 1) :
    getAddressLoopE d fuel i adr = .ok ((getAddressFrom (d.drop i)).map (adr ++ ·)) := by
  induction fuel generalizing i adr with
  | zero => omega
  | succ fuel ih =>
    unfold getAddressLoopE
    split
    · next hge =>
      rw [List.drop_eq_nil_of_le hge]
      rfl
    · next hlt =>
      have hlt' : i < d.length := by omega
      rw [pyIndex_of_lt d i hlt', ok_bind, List.drop_eq_getElem_cons hlt', getAddressFrom]
      split
      · simp only [pure_eq_ok, Option.map_some]
      · rw [ih (i + 1) (adr ++ [d[i]]) (by omega), Option.map_map]
        congr 2
        funext y
        simp only [Function.comp, List.append_assoc, List.cons_append, List.nil_append]

theorem getAddressE_ok (d : List Nat) (pos : Nat) : getAddressE d pos = .ok (getAddress d pos) := by
  unfold getAddressE getAddress
  split
  · rw [getAddressLoopE_ok d _ pos [] (Nat.le_refl _)]
    simp only [List.nil_append, Option.map_id']
  · rfl

theorem Frame.hcsE_ok (f : Frame) : f.hcsE = .ok f.hcs := by
  unfold Frame.hcsE Frame.hcs
  cases f.ctlPos with
  | none => rfl
  | some p =>
    simp only
    split
    · next hl =>
      have hl2 : p + 2 < f.data.length := hl
      have hl1 : p + 1 < f.data.length := by omega
      rw [pyIndex_of_lt f.data _ hl1, pyIndex_of_lt f.data _ hl2, List.getElem?_eq_getElem hl1,
        List.getElem?_eq_getElem hl2]
      rfl
    · rfl

/-- `len ≥ information_position = control position + 3` already excludes `len < 2` -/
theorem Frame.fcsFieldE_ok (f : Frame) : f.fcsFieldE = .ok f.fcsField := by
  unfold Frame.fcsFieldE Frame.fcsField
  cases hip : f.infoPos with
  | none => rfl
  | some ip =>
    dsimp only
    split
    · next hl =>
      obtain ⟨p, -, rfl⟩ := Option.map_eq_some_iff.mp hip
      have hlen : f.len = f.data.length := rfl
      have hl2 : f.len - 2 < f.data.length := by omega
      have hl1 : f.len - 1 < f.data.length := by omega
      rw [if_neg (by omega), pyIndex_of_lt f.data _ hl2, pyIndex_of_lt f.data _ hl1,
        List.getElem?_eq_getElem hl2, List.getElem?_eq_getElem hl1]
      rfl
    · rfl

theorem Frame.isExpectedLengthE_ok (f : Frame) : f.isExpectedLengthE = .ok f.isExpectedLength := by
  unfold Frame.isExpectedLengthE Frame.isExpectedLength Frame.frameLength
  rw [Frame.frameFormatE_ok]
  rfl

theorem appendToFrameE_ok (cfg : Cfg) (c : Core) (f : Frame) (x : Nat) (hf : c.frame = some f) :
    appendToFrameE cfg c x = .ok (appendToFrame cfg c f x) := by
  simp only [appendToFrameE, hf, pure_eq_ok]

/-- the abort test: `_raw_frame_data[-1:][0]` is only evaluated behind `len(...) > 1` -/
theorem abortTestE_ok {β : Type} (cfg : Cfg) (raw : List Nat) (k : Bool → Except PyExc β) :
    (if (cfg.abort && decide (raw.length > 1)) = true then
        pyLastViaSlice raw >>= fun last => pure (last == escOctet) >>= k
      else pure false >>= k) =
      k (cfg.abort && decide (raw.length > 1) && (raw.getLast? == some escOctet)) := by
  cases hg : (cfg.abort && decide (raw.length > 1)) with
  | false => rfl
  | true =>
    have hlen : raw.length > 1 := by
      rw [Bool.and_eq_true, decide_eq_true_eq] at hg; exact hg.2
    obtain ⟨last, hlast⟩ := exists_getLast?_of_length_gt_one hlen
    rw [if_pos rfl, pyLastViaSlice_of_some hlast, ok_bind, pure_eq_ok, ok_bind, hlast, Bool.true_and]
    rfl

theorem handleFlagE_ok (cfg : Cfg) (c : Core) : handleFlagE cfg c = .ok (handleFlag cfg c) := by
  unfold handleFlagE handleFlag
  cases hf : c.frame with
  | none => rfl
  | some f =>
    dsimp only
    by_cases h0 : f.len = 0
    · rw [if_pos h0, if_pos h0]; rfl
    rw [if_neg h0, if_neg h0, Frame.hcsE_ok, ok_bind]
    by_cases h1 : f.hcs.isNone = true
    · rw [if_pos h1, if_pos h1]; rfl
    rw [if_neg h1, if_neg h1, abortTestE_ok]
    by_cases h2 : (cfg.abort && decide (c.raw.length > 1) && (c.raw.getLast? == some escOctet)) = true
    · rw [if_pos h2, if_pos h2]; rfl
    rw [if_neg h2, if_neg h2]
    by_cases h3 : cfg.stuffing = true
    · rw [if_pos h3, if_pos h3]; rfl
    rw [if_neg h3, if_neg h3, Frame.isExpectedLengthE_ok, ok_bind]
    by_cases h4 : f.isExpectedLength = true
    · rw [if_pos h4, if_pos h4]; rfl
    rw [if_neg h4, if_neg h4, appendToFrameE_ok cfg c f flagOctet hf, ok_bind]; rfl

theorem readNextE_ok (cfg : Cfg) (c : Core) (x : Nat) : readNextE cfg c x = .ok (readNext cfg c x) := by
  unfold readNextE readNext
  split
  · exact handleFlagE_ok cfg c
  · cases hf : c.frame with
    | none => rfl
    | some f =>
      simp only
      rw [appendToFrameE_ok cfg c f x hf, ok_bind]; rfl

theorem loopE_ok (cfg : Cfg) (c : Core) (b : Buf) (out : List Frame) :
    ∀ fuel, fuel ≥ b.inp.length + 1 → loopE cfg fuel c b out = .ok (loop cfg c b out) := by
  fun_induction loop cfg c b out with
  | case1 c b out h =>
    intro fuel hfuel
    cases fuel with
    | zero => omega
    | succ fuel => simp only [loopE, h, List.length_nil, Nat.lt_irrefl, if_false, pure_eq_ok, gt_iff_lt]
  | case2 c b out x rest h b1 c1 hrn ih =>
    intro fuel hfuel
    cases fuel with
    | zero => omega
    | succ fuel =>
      rw [h, List.length_cons] at hfuel
      simp only [loopE, h, List.length_cons, gt_iff_lt, Nat.zero_lt_succ, if_true, Buf.popE,
        pure_eq_ok, ok_bind, readNextE_ok, hrn]
      exact ih fuel (by simp only [b1]; omega)
  | case3 c b out x rest h b1 c1 hrn ih =>
    intro fuel hfuel
    cases fuel with
    | zero => omega
    | succ fuel =>
      rw [h, List.length_cons] at hfuel
      simp only [loopE, h, List.length_cons, gt_iff_lt, Nat.zero_lt_succ, if_true, Buf.popE,
        pure_eq_ok, ok_bind, readNextE_ok, hrn]
      have := length_dropWhile_le notFlag rest
      exact ih fuel (by simp only [b1, Buf.trimToFlagOrEnd]; omega)
  | case4 c b out x rest h b1 c1 hrn ih =>
    intro fuel hfuel
    cases fuel with
    | zero => omega
    | succ fuel =>
      rw [h, List.length_cons] at hfuel
      obtain ⟨f, hf⟩ := readNext_complete_frame hrn
      simp only [loopE, h, List.length_cons, gt_iff_lt, Nat.zero_lt_succ, if_true, Buf.popE,
        pure_eq_ok, ok_bind, readNextE_ok, hrn, hf, Frame.isExpectedLengthE_ok]
      have := ih fuel (by simp only [b1, Buf.trimToPos]; omega)
      simpa only [hf, Option.toList_some] using this

theorem readE_ok (cfg : Cfg) (r : Reader) (chunk : List Nat) :
    readE cfg r chunk = .ok (read cfg r chunk) := by
  unfold readE read
  simp only [loopE_ok cfg _ _ _ _ (Nat.le_refl _), ok_bind, pure_eq_ok]

end Amshan.Hdlc
