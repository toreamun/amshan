import Amshan.Lemmas.CosemDT
import Amshan.Model.Aidon
/-
  Aidon push lists read back (C07): the elements one by one (`Array(n, Element)`), and after a
  well-formed LLC/APDU header the frame decoder is the body decoder, for every payload.
-/
namespace Amshan.AidonRT
open Amshan.Gen Amshan.Cosem Amshan.ListSpec Amshan.CosemDT

theorem scalerUnit_enc (sc : Int) (h : -128 ≤ sc ∧ sc ≤ 127) (u : Nat) (rest : List Nat) :
    Aidon.scalerUnit (2 :: 2 :: 15 :: twos8 sc :: 22 :: u :: rest) = .ok sc rest := by
  unfold Aidon.scalerUnit
  simp only [tStructure_eq, tInt8_eq, tEnum_eq, constByte_cons, bind_ok, s8_twos8 sc h, u8_cons]

def toModel : AidonElem → Aidon.Element
  | .text o s => ⟨o, .str s⟩
  | .clock o d => ⟨o, .dt (expectedDT d)⟩
  | .reg o _ v sc _ => ⟨o, .num (some v) sc⟩

theorem element_enc (e : AidonElem) (h : e.WF) (rest : List Nat) :
    Aidon.element (encAidonElem e ++ rest) = .ok (toModel e) rest := by
  cases e with
  | text o s => simp [Aidon.element, encAidonElem, obisField_enc o h.1.1, visibleString_enc s h.2.1, toModel]
  | clock o d => simp [Aidon.element, encAidonElem, obisField_enc o h.1.1, datetime_exact d h.2, toModel]
  | reg o ty v sc u =>
    obtain ⟨⟨ho, _⟩, hr, hs1, hs2, _⟩ := h
    have hsu := scalerUnit_enc sc ⟨hs1, hs2⟩ u rest
    cases ty with
    | u32 =>
      simp [Aidon.element, encAidonElem, encReg, obisField_enc o ho, u32_be32 v.toNat (by have := hr.2; omega),
        toModel, Int.toNat_of_nonneg hr.1, hsu]
    | s16 => simp [Aidon.element, encAidonElem, encReg, obisField_enc o ho, s16_be16 v hr, toModel, hsu]
    | u16 =>
      simp [Aidon.element, encAidonElem, encReg, obisField_enc o ho, u16_be16 v.toNat (by have := hr.2; omega),
        toModel, Int.toNat_of_nonneg hr.1, hsu]

theorem elements_enc (es : List AidonElem) (h : ∀ e ∈ es, e.WF) (trail : List Nat) :
    Aidon.elements es.length (es.flatMap encAidonElem ++ trail) = .ok (es.map toModel) trail := by
  induction es with
  | nil => rfl
  | cons e es ih =>
    rw [List.length_cons, Aidon.elements, List.flatMap_cons, List.append_assoc,
      element_enc e (h e List.mem_cons_self), bind_ok, ih fun x hx => h x (List.mem_cons_of_mem _ hx)]
    rfl

theorem notificationBody_enc (es : List AidonElem) (h : ∀ e ∈ es, e.WF) (trail : List Nat) :
    Aidon.notificationBody (encAidonBody es ++ trail) = .ok (es.map toModel) trail := by
  unfold Aidon.notificationBody encAidonBody
  simp only [List.cons_append, List.nil_append, tArray_eq, constByte_cons, bind_ok, u8_cons]
  exact elements_enc es h trail

theorem element_wants : Wants 2 Aidon.element := tStructure_eq ▸ wants_constByte tStructure _
theorem notificationBody_wants : Wants 1 Aidon.notificationBody := tArray_eq ▸ wants_constByte tArray _

theorem numVal_eq (v sc : Int) : Aidon.numVal v sc = scaledValue v sc := rfl

theorem normalize_toModel (es : List AidonElem) : Aidon.normalize (es.map toModel) = aidonExpected es := by
  unfold Aidon.normalize aidonExpected
  rw [List.foldl_map]
  congr 1
  funext d el
  cases el <;> rfl

theorem decodeFrame_eq_body (hd : Header) (hh : hd.WF) (s : List Nat) :
    Aidon.decodeFrame (encHeader hd ++ s) = Aidon.decodeBody s := by
  unfold Aidon.decodeFrame Aidon.decodeBody
  rw [llc_clock hd hh]
  cases Aidon.notificationBody s <;> rfl

theorem scaled_int_iff (v sc : Int) : (∃ z, scaledValue v sc = .int z) ↔ (sc = 0 ∨ v = 0) := by
  unfold scaledValue
  constructor
  · intro ⟨z, hz⟩
    by_cases h : sc = 0 ∨ v = 0
    · exact h
    · rw [if_neg h] at hz
      split at hz <;> cases hz
  · intro h
    exact ⟨v, by rw [if_pos h]⟩

end Amshan.AidonRT
