import Amshan.Lemmas.PyList
import Amshan.Spec.P1Wire
/-
  The model `Py.intBase16` of `int(text, 16)` accepts exactly the texts of the grammar `IsPyHexInt`;
  `int(text.strip(), 16)` (what `expected_checksum` computes) the same grammar with the white space of
  `str.strip()` around the number, `IsEndHexInt`.  Both are the one statement `intCore16_ok_iff` about
  the number part, for two white-space sets.
-/
namespace Amshan.P1L
open Amshan.P1Spec Amshan.Py

theorem hexVal_range (c t : Nat) (h : hexVal? c = some t) :
    (48 ≤ c ∧ c ≤ 57 ∧ t = c - 48) ∨ (65 ≤ c ∧ c ≤ 70 ∧ t = c - 55) ∨ (97 ≤ c ∧ c ≤ 102 ∧ t = c - 87) := by
  unfold hexVal? at h
  split at h
  · simp only [Option.some.injEq] at h; omega
  · split at h
    · simp only [Option.some.injEq] at h; omega
    · split at h
      · simp only [Option.some.injEq] at h; omega
      · simp at h

theorem hexDigitVal_eq (c : Nat) : hexDigitVal? c = hexVal? c := by
  unfold hexDigitVal? hexVal? Py.isDigit
  simp only [Bool.and_eq_true, decide_eq_true_eq]
  by_cases h1 : 48 ≤ c ∧ c ≤ 57
  · rw [if_pos h1, if_pos h1]
  · by_cases h2 : 65 ≤ c ∧ c ≤ 70
    · rw [if_neg h1, if_neg h1, if_pos h2, if_neg (by omega), if_pos h2]
    · rw [if_neg h1, if_neg h1, if_neg h2, if_neg h2]

theorem hexVal_not_space (c t : Nat) (h : hexVal? c = some t) : isStrSpace c = false :=
  isStrSpace_of_gt (by have := hexVal_range c t h; omega)

theorem hexVal_ascii (c t : Nat) (h : hexVal? c = some t) : c < 128 := by
  have := hexVal_range c t h
  omega

theorem hexLoop_step (c t : Nat) (cs : List Nat) (acc : Nat) (pu any : Bool)
    (h : hexVal? c = some t) :
    hexDigitsLoop (c :: cs) acc pu any = hexDigitsLoop cs (acc * 16 + t) false true := by
  have h95 : (c == 95) = false := by
    have := hexVal_range c t h
    simp only [beq_eq_false_iff_ne]; omega
  rw [hexDigitsLoop]
  simp only [h95, hexDigitVal_eq c, h]
  simp

theorem hexVal_facts (c t : Nat) (h : hexVal? c = some t) :
    c ≠ 95 ∧ c ≠ 43 ∧ c ≠ 45 ∧ c ≠ 120 ∧ c ≠ 88 := by
  have := hexVal_range c t h
  omega

/-- sign part of `int(s, 16)` -/
def signPart (s : List Nat) : Bool × List Nat :=
  match s with
  | 43 :: r => (false, r)
  | 45 :: r => (true, r)
  | _ => (false, s)

/-- `0x` prefix part of `int(s, 16)` -/
def prefixPart (s : List Nat) : List Nat :=
  match s with
  | 48 :: x :: r => if x == 120 || x == 88 then (match r with | 95 :: r' => r' | _ => r) else s
  | _ => s

theorem signPart_plain (a : Nat) (r : List Nat) (h1 : a ≠ 43) (h2 : a ≠ 45) :
    signPart (a :: r) = (false, a :: r) := by
  unfold signPart
  split
  · rename_i heq; simp only [List.cons.injEq] at heq; omega
  · rename_i heq; simp only [List.cons.injEq] at heq; omega
  · rfl

theorem prefixPart_plain (s : List Nat) (h : ∀ x r, s = 48 :: x :: r → (x == 120 || x == 88) = false) :
    prefixPart s = s := by
  unfold prefixPart
  split
  · rename_i x r
    simp [h x r rfl]
  · rfl

theorem prefixPart_x (x c : Nat) (r : List Nat) (hx : (x == 120 || x == 88) = true) (hc : c ≠ 95) :
    prefixPart (48 :: x :: c :: r) = c :: r := by
  simp only [prefixPart, hx, if_true]
  split
  · rename_i heq; simp only [List.cons.injEq] at heq; exact absurd heq.1 hc
  · rfl

/-- hexadecimal digits, single underscores allowed strictly between digits; `ds` = the digit values -/
inductive HexDigits : List Nat → List Nat → Prop
  | one (c t : Nat) : hexVal? c = some t → HexDigits [c] [t]
  | cons (c t : Nat) (cs ts : List Nat) : hexVal? c = some t → HexDigits cs ts → HexDigits (c :: cs) (t :: ts)
  | consU (c t : Nat) (cs ts : List Nat) : hexVal? c = some t → HexDigits cs ts →
      HexDigits (c :: 95 :: cs) (t :: ts)

def hexValue (ds : List Nat) : Nat := ds.foldl (fun a d => a * 16 + d) 0

/-- the number grammar of `int(text, 16)` between two runs of white space of the set `sp`: an optional
    sign, an optional `0x` / `0X` prefix which may be followed by ONE underscore, hexadecimal digits
    with single underscores strictly between them -/
def IsHexIntWith (sp : Nat → Bool) (t : List Nat) (v : Int) : Prop :=
  ∃ w1 sgn pre body w2 ds, t = w1 ++ sgn ++ pre ++ body ++ w2 ∧
    w1.all sp = true ∧ w2.all sp = true ∧
    (sgn = [] ∨ sgn = [43] ∨ sgn = [45]) ∧
    (pre = [] ∨ pre = [48, 120] ∨ pre = [48, 88] ∨ pre = [48, 120, 95] ∨ pre = [48, 88, 95]) ∧
    HexDigits body ds ∧ v = (if sgn = [45] then -(hexValue ds : Int) else (hexValue ds : Int))

/-- **the texts `int(text, 16)` accepts, with their value** (CPython's grammar, on ASCII text): C white
    space (`Py_ISSPACE`: 32, 9..13 - NOT the separators 0x1C..0x1F, which `str.strip()` removes but
    `int()` on an all-ASCII `str` does not skip), an optional sign, an optional `0x` / `0X` prefix which
    may be followed by ONE underscore, hexadecimal digits with single underscores strictly between them,
    C white space -/
def IsPyHexInt (t : List Nat) (v : Int) : Prop := IsHexIntWith isBytesSpace t v

/-- **the texts `int(text.strip(), 16)` accepts** - the composite the library applies to the text
    after '!' (`expected_checksum`: `int(end[1:].strip(), base=16)`): the same grammar, but the white
    space around the number is that of `str.strip()` (32, 9..13 and 0x1C..0x1F), because it has been
    removed before `int()` sees the text -/
def IsEndHexInt (t : List Nat) (v : Int) : Prop := IsHexIntWith isStrSpace t v

theorem isEndHexInt_of_isPyHexInt (t : List Nat) (v : Int) (h : IsPyHexInt t v) : IsEndHexInt t v := by
  obtain ⟨w1, sgn, pre, body, w2, ds, ht, h1, h2, rest⟩ := h
  refine ⟨w1, sgn, pre, body, w2, ds, ht, ?_, ?_, rest⟩
  · rw [List.all_eq_true] at h1 ⊢
    exact fun x hx => isStrSpace_of_isBytesSpace x (h1 x hx)
  · rw [List.all_eq_true] at h2 ⊢
    exact fun x hx => isStrSpace_of_isBytesSpace x (h2 x hx)

theorem hexDigits_head (cs ds : List Nat) (h : HexDigits cs ds) :
    ∃ c t cs', cs = c :: cs' ∧ hexVal? c = some t := by
  cases h with
  | one c t hc => exact ⟨c, t, [], rfl, hc⟩
  | cons c t cs ts hc _ => exact ⟨c, t, cs, rfl, hc⟩
  | consU c t cs ts hc _ => exact ⟨c, t, 95 :: cs, rfl, hc⟩

theorem hexDigits_getLast (cs ds : List Nat) (h : HexDigits cs ds) :
    ∃ x t, cs.getLast? = some x ∧ hexVal? x = some t := by
  induction h with
  | one c t hc => exact ⟨c, t, rfl, hc⟩
  | cons c t cs ts hc hcs ih =>
    obtain ⟨c', _, cs', rfl, _⟩ := hexDigits_head cs ts hcs
    rw [List.getLast?_cons_cons]
    exact ih
  | consU c t cs ts hc hcs ih =>
    obtain ⟨c', _, cs', rfl, _⟩ := hexDigits_head cs ts hcs
    rw [List.getLast?_cons_cons, List.getLast?_cons_cons]
    exact ih

/-- whatever the flags: a digit string starts with a digit -/
theorem hexLoop_of_digits (cs ds : List Nat) (h : HexDigits cs ds) (acc : Nat) (pu any : Bool) :
    hexDigitsLoop cs acc pu any = some (ds.foldl (fun a d => a * 16 + d) acc) := by
  induction h generalizing acc pu any with
  | one c t hc =>
    rw [hexLoop_step c t _ _ _ _ hc]
    simp [hexDigitsLoop]
  | cons c t cs ts hc _ ih =>
    rw [hexLoop_step c t _ _ _ _ hc, ih]
    rfl
  | consU c t cs ts hc _ ih =>
    rw [hexLoop_step c t _ _ _ _ hc]
    rw [hexDigitsLoop]
    simp only [beq_self_eq_true, if_true, Bool.false_or, Bool.not_true, Bool.false_eq_true, if_false]
    rw [ih]
    rfl

/-- three cases because of the flags: after a digit the loop also succeeds on nothing, and on an
    underscore followed by a digit string -/
theorem hexLoop_some (cs : List Nat) : ∀ (acc : Nat) (pu any : Bool) (n : Nat),
    hexDigitsLoop cs acc pu any = some n →
      (cs = [] ∧ n = acc ∧ pu = false ∧ any = true) ∨
      (∃ ds, HexDigits cs ds ∧ n = ds.foldl (fun a d => a * 16 + d) acc) ∨
      (∃ cs' ds, cs = 95 :: cs' ∧ pu = false ∧ any = true ∧ HexDigits cs' ds ∧
        n = ds.foldl (fun a d => a * 16 + d) acc) := by
  induction cs with
  | nil =>
    intro acc pu any n h
    rw [hexDigitsLoop] at h
    split at h
    · cases h
    · rename_i hc
      simp only [Option.some.injEq] at h
      simp only [Bool.or_eq_true, Bool.not_eq_true', not_or, Bool.not_eq_true, Bool.not_eq_false] at hc
      exact Or.inl ⟨rfl, h.symm, hc.1, hc.2⟩
  | cons c cs ih =>
    intro acc pu any n h
    rw [hexDigitsLoop] at h
    split at h
    · rename_i hc95
      have hc : c = 95 := by simpa using hc95
      split at h
      · cases h
      · rename_i hflags
        simp only [Bool.or_eq_true, Bool.not_eq_true', not_or, Bool.not_eq_true, Bool.not_eq_false] at hflags
        rcases ih acc true any n h with ⟨_, _, hpu, _⟩ | ⟨ds, hds, hn⟩ | ⟨_, _, _, hpu, _⟩
        · cases hpu
        · exact Or.inr (Or.inr ⟨cs, ds, by rw [hc], hflags.1, hflags.2, hds, hn⟩)
        · cases hpu
    · split at h
      · rename_i t ht
        have hv : hexVal? c = some t := hexDigitVal_eq c ▸ ht
        rcases ih (acc * 16 + t) false true n h with ⟨hnil, hn, _, _⟩ | ⟨ds, hds, hn⟩ | ⟨cs', ds, hcs, _, _, hds, hn⟩
        · exact Or.inr (Or.inl ⟨[t], by rw [hnil]; exact .one c t hv, by rw [hn]; rfl⟩)
        · exact Or.inr (Or.inl ⟨t :: ds, .cons c t cs ds hv hds, by rw [hn]; rfl⟩)
        · exact Or.inr (Or.inl ⟨t :: ds, by rw [hcs]; exact .consU c t cs' ds hv hds, by rw [hn]; rfl⟩)
      · cases h

/-- the part of `int(text, 16)` after the white space has been skipped -/
def intCore16 (s : List Nat) : Except PyExc Int :=
  match hexDigitsLoop (prefixPart (signPart s).2) 0 false false with
  | some v => .ok (if (signPart s).1 then -(v : Int) else (v : Int))
  | none => .error .valueError

theorem intBase16_core (s : List Nat) : intBase16 s = intCore16 (stripC s) := rfl

/-- `int(text.strip(), 16)`: after `str.strip()` the white-space skip of `int()` removes nothing.
    (`int(text.strip(), 16) = int(text, 16)` does NOT hold: "1F\x1c" is accepted by the left side only.) -/
theorem intBase16_strip (s : List Nat) : intBase16 (strip s) = intCore16 (strip s) := by
  rw [intBase16_core, stripC_strip]

/-- `hsp`: the white-space set is part of that of `str.strip()`, which contains no character of the
    number grammar -/
theorem intCore16_of_grammar (sp : Nat → Bool) (hsp : ∀ c, isStrSpace c = false → sp c = false)
    (t : List Nat) (v : Int) (h : IsHexIntWith sp t v) : intCore16 (stripWith sp t) = .ok v := by
  obtain ⟨w1, sgn, pre, body, w2, ds, ht, h1, h2, hsgn, hpre, hbody, hv⟩ := h
  obtain ⟨c0, t0, body', hb0, hc0⟩ := hexDigits_head body ds hbody
  have f0 := hexVal_facts c0 t0 hc0
  -- what follows the sign begins with '0' or a digit: neither a sign nor white space
  have hhead : ∃ a r', pre ++ body = a :: r' ∧ a ≠ 43 ∧ a ≠ 45 ∧ sp a = false := by
    rcases hpre with rfl | rfl | rfl | rfl | rfl
    · exact ⟨c0, body', by rw [List.nil_append, hb0], f0.2.1, f0.2.2.1, hsp c0 (hexVal_not_space c0 t0 hc0)⟩
    all_goals exact ⟨48, _, rfl, by decide, by decide, hsp 48 rfl⟩
  obtain ⟨a, r', hr, ha1, ha2, ha3⟩ := hhead
  have hcore : TrimmedW sp (sgn ++ pre ++ body) := by
    constructor
    · intro x tl hx
      rcases hsgn with rfl | rfl | rfl
      · rw [List.nil_append, hr] at hx
        cases hx
        exact ha3
      · simp only [List.cons_append, List.nil_append, List.cons.injEq] at hx
        rw [← hx.1]; exact hsp 43 rfl
      · simp only [List.cons_append, List.nil_append, List.cons.injEq] at hx
        rw [← hx.1]; exact hsp 45 rfl
    · intro x u hx
      obtain ⟨y, tl, hy, htl⟩ := hexDigits_getLast body ds hbody
      have : (sgn ++ pre ++ body).getLast? = some y := by rw [List.getLast?_append, hy]; rfl
      rw [hx, List.getLast?_concat] at this
      cases this
      exact hsp x (hexVal_not_space x tl htl)
  have hs : stripWith sp t = sgn ++ pre ++ body := by
    rw [ht]
    have : w1 ++ sgn ++ pre ++ body ++ w2 = w1 ++ (sgn ++ pre ++ body) ++ w2 := by
      simp only [List.append_assoc]
    rw [this]
    exact stripWith_of_decomp sp w1 _ w2 h1 h2 hcore
  have hp : prefixPart (pre ++ body) = body := by
    rcases hpre with rfl | rfl | rfl | rfl | rfl
    · rw [List.nil_append]
      apply prefixPart_plain
      intro x r e
      -- the second character of a digit string is a digit or an underscore
      rw [e] at hbody
      cases hbody with
      | cons _ _ _ _ _ hrest =>
        obtain ⟨c1, t1, _, hh, hc1⟩ := hexDigits_head _ _ hrest
        have := hexVal_facts c1 t1 hc1
        simp only [List.cons.injEq] at hh
        simp [hh.1, this.2.2.2.1, this.2.2.2.2]
      | consU _ _ _ _ _ _ => rfl
    · rw [hb0]; exact prefixPart_x 120 c0 body' rfl f0.1
    · rw [hb0]; exact prefixPart_x 88 c0 body' rfl f0.1
    · simp [prefixPart]
    · simp [prefixPart]
  have hsg : signPart (sgn ++ pre ++ body) = (decide (sgn = [45]), pre ++ body) := by
    rcases hsgn with rfl | rfl | rfl
    · rw [List.nil_append, hr]
      exact signPart_plain a r' ha1 ha2
    · rfl
    · rfl
  rw [hs]
  unfold intCore16
  rw [hsg]
  simp only
  rw [hp, hexLoop_of_digits body ds hbody 0 false false, hv]
  simp [hexValue]

theorem grammar_of_intCore16 (sp : Nat → Bool) (t : List Nat) (v : Int) (h : intCore16 (stripWith sp t) = .ok v) :
    IsHexIntWith sp t v := by
  obtain ⟨w1, w2, hs, h1, h2, _⟩ := stripWith_decomp sp t
  unfold intCore16 at h
  split at h
  · rename_i n hn
    simp only [Except.ok.injEq] at h
    have hsign : ∃ sgn r, stripWith sp t = sgn ++ r ∧ (sgn = [] ∨ sgn = [43] ∨ sgn = [45]) ∧
        signPart (stripWith sp t) = (decide (sgn = [45]), r) := by
      unfold signPart
      split
      · rename_i r heq; exact ⟨[43], r, heq, Or.inr (Or.inl rfl), rfl⟩
      · rename_i r heq; exact ⟨[45], r, heq, Or.inr (Or.inr rfl), rfl⟩
      · exact ⟨[], stripWith sp t, rfl, Or.inl rfl, rfl⟩
    obtain ⟨sgn, r, hr, hsgn, hsp⟩ := hsign
    rw [hsp] at hn h
    simp only at hn h
    have hpre : ∃ pre body, r = pre ++ body ∧
        (pre = [] ∨ pre = [48, 120] ∨ pre = [48, 88] ∨ pre = [48, 120, 95] ∨ pre = [48, 88, 95]) ∧
        prefixPart r = body := by
      unfold prefixPart
      split
      · rename_i x r2
        split
        · rename_i hx
          have hx' : x = 120 ∨ x = 88 := by simpa using hx
          split
          · rename_i r3
            rcases hx' with rfl | rfl
            · exact ⟨[48, 120, 95], r3, rfl, Or.inr (Or.inr (Or.inr (Or.inl rfl))), rfl⟩
            · exact ⟨[48, 88, 95], r3, rfl, Or.inr (Or.inr (Or.inr (Or.inr rfl))), rfl⟩
          · rcases hx' with rfl | rfl
            · exact ⟨[48, 120], r2, rfl, Or.inr (Or.inl rfl), rfl⟩
            · exact ⟨[48, 88], r2, rfl, Or.inr (Or.inr (Or.inl rfl)), rfl⟩
        · exact ⟨[], _, rfl, Or.inl rfl, rfl⟩
      · exact ⟨[], r, rfl, Or.inl rfl, rfl⟩
    obtain ⟨pre, body, hrb, hpre, hpp⟩ := hpre
    rw [hpp] at hn
    rcases hexLoop_some body 0 false false n hn with ⟨_, _, _, hany⟩ | ⟨ds, hds, hnds⟩ | ⟨_, _, _, _, hany, _⟩
    · cases hany
    · refine ⟨w1, sgn, pre, body, w2, ds, ?_, h1, h2, hsgn, hpre, hds, ?_⟩
      · rw [hs, hr, hrb]; simp only [List.append_assoc]
      · rw [← h]
        have : n = hexValue ds := hnds
        rw [this]
        by_cases h45 : sgn = [45]
        · simp [h45]
        · simp [h45]
    · cases hany
  · cases h

theorem intCore16_ok_iff (sp : Nat → Bool) (hsp : ∀ c, isStrSpace c = false → sp c = false) (t : List Nat) (v : Int) :
    intCore16 (stripWith sp t) = .ok v ↔ IsHexIntWith sp t v :=
  ⟨grammar_of_intCore16 sp t v, intCore16_of_grammar sp hsp t v⟩

theorem intBase16_strip_ok_iff (t : List Nat) (v : Int) : intBase16 (strip t) = .ok v ↔ IsEndHexInt t v := by
  rw [intBase16_strip]
  exact intCore16_ok_iff isStrSpace (fun _ h => h) t v

theorem isEndHexInt_not_space (t : List Nat) (v : Int) (h : IsEndHexInt t v) : ¬ t.all isStrSpace = true := by
  obtain ⟨w1, sgn, pre, body, w2, ds, rfl, _, _, _, _, hbody, _⟩ := h
  obtain ⟨c, tc, _, rfl, hc⟩ := hexDigits_head body ds hbody
  intro hsp
  have := List.all_eq_true.1 hsp c (by simp)
  rw [hexVal_not_space c tc hc] at this
  cases this

theorem term_ascii (term : List Nat) (h : term = [] ∨ term = [10] ∨ term = [13, 10]) :
    ∀ x ∈ term, x < 128 := by
  rcases h with h | h | h <;> subst h <;> decide

theorem isPyHexInt_of_checksumText (t : List Nat) (v : Nat) (h : IsChecksumText t v) : IsPyHexInt t (v : Int) := by
  obtain ⟨a, b, c, d, ta, tb, tc, td, term, hte, ha, hb, hc, hd, hv, hterm⟩ := h
  refine ⟨[], [], [], [a, b, c, d], term, [ta, tb, tc, td], by rw [hte]; rfl, rfl,
    (by rcases hterm with h | h | h <;> subst h <;> decide),
    Or.inl rfl, Or.inl rfl, .cons a ta _ _ ha (.cons b tb _ _ hb (.cons c tc _ _ hc (.one d td hd))), ?_⟩
  rw [hv]
  simp [hexValue]

theorem isEndHexInt_of_checksumText (t : List Nat) (v : Nat) (h : IsChecksumText t v) : IsEndHexInt t (v : Int) :=
  isEndHexInt_of_isPyHexInt t v (isPyHexInt_of_checksumText t v h)

theorem checksumText_ascii (t : List Nat) (v : Nat) (h : IsChecksumText t v) : ∀ x ∈ t, x < 128 := by
  obtain ⟨a, b, c, d, ta, tb, tc, td, term, rfl, ha, hb, hc, hd, _, hterm⟩ := h
  intro x hx
  simp only [List.cons_append, List.nil_append, List.mem_cons] at hx
  rcases hx with rfl | rfl | rfl | rfl | hx
  · exact hexVal_ascii _ _ ha
  · exact hexVal_ascii _ _ hb
  · exact hexVal_ascii _ _ hc
  · exact hexVal_ascii _ _ hd
  · exact term_ascii term hterm x hx

end Amshan.P1L
