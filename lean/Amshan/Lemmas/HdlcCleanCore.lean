import Amshan.Lemmas.HdlcRun
import Amshan.Lemmas.HdlcFrame
/-
  Clean streams through the HDLC reader (C02, C16): a reader core satisfying the invariant is hunting or
  of the form `st u raw p` — escape pending, raw octets since the opening flag, frame octets so far — since
  a frame object satisfying the invariant is determined by its octets (`eq_mk_of_inv`).
-/
namespace Amshan.HdlcClean
open Amshan.Gen Amshan.Hdlc Amshan.HdlcSpec

theorem flagOctet_val : flagOctet = 126 := rfl
theorem escOctet_val : escOctet = 125 := rfl

theorem Octets_replicate (n a : Nat) (ha : a < 256) : Octets (List.replicate n a) := by
  intro x hx
  rw [List.mem_replicate] at hx
  omega

/-- the frame object after `append` has been called for every octet of `p` -/
def mk (p : List Nat) : Frame := p.foldl Frame.append Frame.empty

theorem mk_nil : mk [] = Frame.empty := rfl

theorem mk_snoc (p : List Nat) (x : Nat) : mk (p ++ [x]) = (mk p).append x := by
  simp only [mk, List.foldl_append, List.foldl_cons, List.foldl_nil]

theorem mk_data (p : List Nat) : (mk p).data = p := foldl_append_data p Frame.empty

theorem mk_len (p : List Nat) : (mk p).len = p.length := congrArg List.length (mk_data p)

theorem mk_len_ne_zero {p : List Nat} (hp : p ≠ []) : (mk p).len ≠ 0 := by
  rw [mk_len]; exact fun h => hp (List.length_eq_zero_iff.mp h)

theorem mk_inv (p : List Nat) (hp : Octets p) : FrameInv (mk p) :=
  foldl_append_inv p _ FrameInv_empty hp

theorem mk_crc (p : List Nat) (hp : Octets p) : (mk p).crc = Fcs.feed fcsInit p := by
  have := (mk_inv p hp).1
  rwa [mk_data] at this

theorem mk_ctlPos (p : List Nat) (hp : Octets p) : (mk p).ctlPos = controlPos p := by
  have := (mk_inv p hp).2.1
  rwa [mk_data] at this

theorem eq_mk_of_inv (f : Frame) (hf : FrameInv f) : f = mk f.data := by
  cases f with
  | mk data crc ctlPos =>
    obtain ⟨h1, h2, h3⟩ := hf
    dsimp only at h1 h2 h3
    subst h1 h2
    show _ = Frame.mk (mk data).data (mk data).crc (mk data).ctlPos
    rw [mk_data, mk_crc data h3, mk_ctlPos data h3]

/-- a reader that is inside a frame whose octets so far are `p` -/
def st (u : Bool) (raw p : List Nat) : Core := { unescapeNext := u, raw := raw, frame := some (mk p) }

/-- the state after `_start_frame` -/
def fresh : Core := st false [] []

theorem startFrame_eq (c : Core) : startFrame c = fresh := rfl

theorem fresh_inv : CoreInv fresh := mk_inv [] Octets_nil

theorem core_shape (c : Core) (hc : CoreInv c) :
    c.frame = none ∨ ∃ p, Octets p ∧ c = st c.unescapeNext c.raw p := by
  cases c with
  | mk u raw frame =>
    cases frame with
    | none => exact Or.inl rfl
    | some f =>
      right
      have hf : FrameInv f := by simpa [CoreInv] using hc
      refine ⟨f.data, hf.2.2, ?_⟩
      simp only [st]
      rw [← eq_mk_of_inv f hf]

theorem core_empty_shape (c : Core) (hc : CoreInv c) (f : Frame) (hf : c.frame = some f)
    (h0 : f.len = 0) : c = st c.unescapeNext c.raw [] := by
  rcases core_shape c hc with h | ⟨p, _, h⟩
  · rw [h] at hf; cases hf
  · rw [h] at hf
    cases hf
    rw [mk_len] at h0
    rwa [List.eq_nil_of_length_eq_zero h0] at h

theorem step_st (cfg : Cfg) (u : Bool) (raw p : List Nat) (x : Nat) :
    stepOctet cfg (st u raw p) x =
      match effect cfg raw (mk p) x with
      | .restart => (st false [] p, [])
      | .drop => (gotoHunt (st u raw p), [])
      | .deliver => (fresh, [mk p])
      | .absorb => ((maxLenCheck (appendToFrame cfg (st u raw p) (mk p) x)).1, []) := by
  rw [stepOctet_eq]
  show (match effect cfg raw (mk p) x with
    | .restart => _ | .drop => _ | .deliver => _ | .absorb => _) = _
  cases effect cfg raw (mk p) x <;> rfl

theorem append_st (cfg : Cfg) (u : Bool) (raw p : List Nat) (x : Nat) :
    appendToFrame cfg (st u raw p) (mk p) x =
      st (unesc cfg.stuffing u x).2 (raw ++ [x]) (p ++ (unesc cfg.stuffing u x).1) := by
  rw [appendToFrame_eq]
  exact congrArg (Core.mk _ _ <| some ·) (List.foldl_append ..).symm

theorem maxLenCheck_st (u : Bool) (raw p : List Nat) :
    (maxLenCheck (st u raw p)).1 = if p.length ≤ 2047 then st u raw p else gotoHunt (st u raw p) := by
  rcases maxLenCheck_cases (st u raw p) with ⟨e, h⟩ | ⟨e, f, hf, h⟩
  · rw [e, if_pos (by simpa only [mk_len, maxFrameLen_eq] using h (mk p) rfl)]
  · cases hf
    rw [e, if_neg (by rw [mk_len, maxFrameLen_eq] at h; exact Nat.not_le.mpr h)]

theorem step_absorb {cfg : Cfg} {u u' : Bool} {raw p o : List Nat} {x : Nat}
    (he : effect cfg raw (mk p) x = .absorb) (hu : unesc cfg.stuffing u x = (o, u')) :
    stepOctet cfg (st u raw p) x =
      (if p.length + o.length ≤ 2047 then st u' (raw ++ [x]) (p ++ o)
        else gotoHunt (st u' (raw ++ [x]) (p ++ o)), []) := by
  rw [step_st, he]
  dsimp only
  rw [append_st, hu, maxLenCheck_st, List.length_append]

theorem step_hunt_flag (cfg : Cfg) (c : Core) (hc : c.frame = none) :
    stepOctet cfg c flagOctet = (fresh, []) :=
  stepOctet_hunt_flag cfg hc

theorem step_empty_flag (cfg : Cfg) (u : Bool) (raw : List Nat) :
    stepOctet cfg (st u raw []) flagOctet = (fresh, []) := by
  rw [step_st, effect_flag_empty rfl]; rfl

theorem run_fresh_flags (cfg : Cfg) (n : Nat) :
    run cfg fresh (List.replicate n flagOctet) = (fresh, []) := by
  induction n with
  | zero => rfl
  | succ n ih => rw [List.replicate_succ, run_cons, fresh, step_empty_flag, ih]; rfl

theorem run_hunt_flags (cfg : Cfg) (c : Core) (hc : c.frame = none) (n : Nat) :
    run cfg c (List.replicate (n + 1) flagOctet) = (fresh, []) := by
  rw [List.replicate_succ, run_cons, step_hunt_flag cfg c hc, run_fresh_flags]; rfl

/-- `unesc` over a run of octets: what they append to the frame, and the escape state after them -/
def unescAll (s : Bool) : Bool → List Nat → List Nat × Bool
  | u, [] => ([], u)
  | u, x :: xs =>
    ((unesc s u x).1 ++ (unescAll s (unesc s u x).2 xs).1, (unescAll s (unesc s u x).2 xs).2)

theorem run_body (cfg : Cfg) (u : Bool) (q raw p : List Nat)
    (hflags : ∀ q1 q2, q = q1 ++ flagOctet :: q2 →
      effect cfg (raw ++ q1) (mk (p ++ (unescAll cfg.stuffing u q1).1)) flagOctet = .absorb)
    (hl : p.length + (unescAll cfg.stuffing u q).1.length ≤ 2047) :
    run cfg (st u raw p) q =
      (st (unescAll cfg.stuffing u q).2 (raw ++ q) (p ++ (unescAll cfg.stuffing u q).1), []) := by
  induction q generalizing u raw p with
  | nil => rw [run_nil, unescAll, List.append_nil, List.append_nil]
  | cons x xs ih =>
    have he : effect cfg raw (mk p) x = .absorb := by
      by_cases hx : x = flagOctet
      · subst hx; simpa only [unescAll, List.append_nil] using hflags [] xs rfl
      · exact effect_of_ne hx
    rw [unescAll, List.length_append] at hl
    rw [run_cons, step_absorb he (Prod.eta _).symm, if_pos (by omega), ih]
    · rw [unescAll, List.append_assoc, List.append_assoc]; rfl
    · intro q1 q2 e
      have := hflags (x :: q1) q2 (by rw [e]; rfl)
      rwa [unescAll, ← List.append_assoc, List.append_cons] at this
    · rw [List.length_append]; omega

theorem unescAll_plain (u : Bool) (q : List Nat) : unescAll false u q = (q, u) := by
  induction q with
  | nil => rfl
  | cons x xs ih => rw [unescAll, unesc_plain rfl, ih]; rfl

theorem unescAll_stuff (q : List Nat) : unescAll true false (stuff q) = (q, false) := by
  induction q with
  | nil => rfl
  | cons x xs ih =>
    rw [stuff]
    split
    · rw [unescAll, ← escOctet_eq_esc, unesc_esc rfl, unescAll, unesc_pending rfl, ih, escXor_eq,
        Nat.xor_assoc, Nat.xor_self, Nat.xor_zero]
      rfl
    · next h => rw [unescAll, unesc_other rfl fun e => h (Or.inr e), ih]; rfl

theorem stuff_append (a b : List Nat) : stuff (a ++ b) = stuff a ++ stuff b := by
  induction a with
  | nil => rfl
  | cons x xs ih =>
    simp only [List.cons_append, stuff, ih]
    split <;> simp

theorem flag_not_mem_stuff (a : List Nat) : flagOctet ∉ stuff a := by
  induction a with
  | nil => simp [stuff]
  | cons x xs ih =>
    simp only [stuff]
    split
    · rename_i h
      simp only [List.mem_cons, not_or]
      refine ⟨by decide, ?_, ih⟩
      rcases h with h | h <;> subst h <;> decide
    · rename_i h
      simp only [List.mem_cons, not_or]
      refine ⟨?_, ih⟩
      intro e; exact h (Or.inl e.symm)

theorem getLast?_append_ne_nil (a b : List Nat) (hb : b ≠ []) : (a ++ b).getLast? = b.getLast? := by
  rw [List.getLast?_append]
  cases h : b.getLast? with
  | none => exact absurd (List.getLast?_eq_none_iff.mp h) hb
  | some x => rfl

theorem getLast?_stuff_ne_esc (a : List Nat) : (stuff a).getLast? ≠ some escOctet := by
  by_cases ha : a = []
  · subst ha; simp [stuff]
  · rw [← List.dropLast_concat_getLast ha, stuff_append,
      getLast?_append_ne_nil _ _ (by simp only [stuff]; split <;> simp)]
    simp only [stuff]
    split
    · next h => rcases h with h | h <;> rw [h] <;> decide
    · next h =>
      rw [List.getLast?_singleton, ne_eq, Option.some.injEq]
      exact fun e => h (Or.inr e)

end Amshan.HdlcClean
