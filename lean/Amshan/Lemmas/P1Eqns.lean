import Amshan.Model.P1Defs
import Amshan.Lemmas.PyList
/-
  The equations of `Buf.pop`, `handleLine`, one turn of `loop`, and `read` (Model/P1.lean).
-/
namespace Amshan.P1
open Amshan.Gen Amshan.Py Amshan.P1Spec

theorem notLf_iff (x : Nat) : notLf x = true ↔ x ≠ 10 := by simp [notLf, p1Lf]
theorem notStart_iff (x : Nat) : notStart x = true ↔ x ≠ 47 := by simp [notStart, p1Start]

theorem notLf_of_not_mem {l : List Nat} (h : 10 ∉ l) : ∀ a ∈ l, notLf a = true :=
  fun a ha => (notLf_iff a).2 fun e => h (e ▸ ha)

theorem notStart_of_not_mem {l : List Nat} (h : 47 ∉ l) : ∀ a ∈ l, notStart a = true :=
  fun a ha => (notStart_iff a).2 fun e => h (e ▸ ha)

theorem pop_none (b : Buf) (h : 10 ∉ b.inp) : b.pop = none := by
  have := List.dropWhile_append_of_pos (l₂ := []) (notLf_of_not_mem h)
  simp only [List.append_nil, List.dropWhile_nil] at this
  simp only [Buf.pop, this]

theorem pop_some (c : Nat) (body rest : List Nat) (h : 10 ∉ body) :
    Buf.pop ⟨c, body ++ 10 :: rest⟩ = some (body ++ [10], ⟨c + body.length + 1, rest⟩) := by
  have hl := notLf_of_not_mem h
  have hn : ¬ notLf 10 = true := by decide
  simp only [Buf.pop, List.takeWhile_append_of_pos hl, List.dropWhile_append_of_pos hl,
    List.takeWhile_cons_of_neg hn, List.dropWhile_cons_of_neg hn, List.append_nil]

theorem pop_eq_some {b : Buf} {line : List Nat} {b1 : Buf} (h : b.pop = some (line, b1)) :
    line ≠ [] ∧ b.inp = line ++ b1.inp ∧ b1.consumed = b.consumed + line.length := by
  simp only [Buf.pop] at h
  split at h
  · cases h
  · rename_i lf rest heq
    simp only [Option.some.injEq, Prod.mk.injEq] at h
    obtain ⟨rfl, rfl⟩ := h
    refine ⟨by simp, ?_, by simp [Nat.add_assoc]⟩
    have := List.takeWhile_append_dropWhile (p := notLf) (l := b.inp)
    rw [heq] at this
    simpa using this.symm

theorem handleLine_nil (raw : List Nat) (hunt : Bool) : handleLine raw hunt [] = .error .indexError := by
  cases hunt <;> rfl

theorem handleLine_hunt (raw : List Nat) (c : Nat) (t : List Nat) :
    handleLine raw true (c :: t) =
      .ok (if c == p1Start && isAscii (c :: t) && isIdentLine (c :: t) then (raw ++ c :: t, false, none)
           else (raw, true, none)) := by
  simp only [handleLine, if_true]
  cases hasc : (c == p1Start && isAscii (c :: t))
  · rfl
  · rw [P1L.decodeAscii_of_isAscii (Bool.and_eq_true_iff.mp hasc).2]
    cases hid : isIdentLine (c :: t) <;> simp [hid, bind, Except.bind, pure, Except.pure]

theorem handleLine_collect (raw : List Nat) (c : Nat) (t : List Nat) :
    handleLine raw false (c :: t) =
      if c == p1End then
        (match Readout.make (raw ++ c :: t) with | .ok ro => .ok ([], true, some ro) | .error e => .error e)
      else .ok (raw ++ c :: t, false, none) := by
  simp only [handleLine, Bool.false_eq_true, if_false]
  cases hc : c == p1End
  · rfl
  · cases hmk : Readout.make (raw ++ c :: t) <;> rfl

theorem loop_of_pop_none (b : Buf) (raw : List Nat) (hunt : Bool) (out : List Readout)
    (h : b.pop = none) : loop b raw hunt out = .ok ({ buf := b, raw := raw, hunt := hunt }, out) := by
  rw [loop]
  split
  · rfl
  · rename_i h2; rw [h] at h2; cases h2

theorem loop_of_pop_some (b : Buf) (raw : List Nat) (hunt : Bool) (out : List Readout)
    (line : List Nat) (b1 : Buf) (h : b.pop = some (line, b1)) :
    loop b raw hunt out =
      match handleLine raw hunt line with
      | .error e => .error e
      | .ok (raw1, hunt1, ro) => loop b1 raw1 hunt1 (out ++ ro.toList) := by
  rw [loop]
  split
  · rename_i h2; rw [h] at h2; cases h2
  · rename_i l' b' h2
    rw [h] at h2
    simp only [Option.some.injEq, Prod.mk.injEq] at h2
    obtain ⟨rfl, rfl⟩ := h2
    rfl

theorem read_over (r : Reader) (chunk : List Nat) (h : r.buf.inp.length + r.raw.length > p1Guard) :
    read r chunk = loop ⟨0, chunk.dropWhile notStart⟩ [] true [] := by
  simp [read, Buf.trimToPos, h, Buf.extend, Buf.empty, Buf.trimToFlagOrEnd]

theorem read_hunt (r : Reader) (chunk : List Nat) (h : r.buf.inp.length + r.raw.length ≤ p1Guard)
    (hh : r.hunt = true) :
    read r chunk = loop ⟨0, (r.buf.inp ++ chunk).dropWhile notStart⟩ r.raw true [] := by
  have : ¬ (r.buf.inp.length + r.raw.length > p1Guard) := by omega
  simp [read, Buf.trimToPos, this, Buf.extend, Buf.trimToFlagOrEnd, hh]

theorem read_nohunt (r : Reader) (chunk : List Nat) (h : r.buf.inp.length + r.raw.length ≤ p1Guard)
    (hh : r.hunt = false) :
    read r chunk = loop ⟨0, r.buf.inp ++ chunk⟩ r.raw false [] := by
  have : ¬ (r.buf.inp.length + r.raw.length > p1Guard) := by omega
  simp [read, Buf.trimToPos, this, Buf.extend, hh]

end Amshan.P1
