import Amshan.Lemmas.P1Loop
import Amshan.Lemmas.P1ReadoutChk
/-
  `handleLine` line by line, the basic reader invariant `BI`, and what they give for `Feed`,
  `loop` and `read` on arbitrary input: the reader never raises from a state satisfying `BI`
  (C14, P1 part), and the collected data grows by at most what was consumed (C19, P1 part).
-/
namespace Amshan.P1
open Amshan.Gen Amshan.P1Spec

open Amshan.Py in
theorem find_eq_none_iff (xs : List Nat) (c : Nat) : find xs c = none ↔ c ∉ xs :=
  P1L.find_eq_none_iff xs c

theorem make_succeeds (t : List Nat) (h : 33 ∈ t) : ∃ ro, Readout.make (47 :: t) = .ok ro := by
  obtain ⟨e, he⟩ := P1L.find_some_of_mem (47 :: t) 33 (List.mem_cons_of_mem _ h)
  exact ⟨_, P1L.make_of_facts (47 :: t) t e (P1L.lstripBytes_cons 47 t (by decide)) he⟩

/-- in hunt mode nothing is collected; otherwise the collected lines start with '/' -/
def BI (raw : List Nat) (hunt : Bool) : Prop :=
  (hunt = true → raw = []) ∧ (hunt = false → ∃ t, raw = 47 :: t)

theorem BI_init : BI [] true := ⟨fun _ => rfl, fun h => (by cases h)⟩

theorem BI_false (t : List Nat) : BI (47 :: t) false := ⟨fun h => (by cases h), fun _ => ⟨t, rfl⟩⟩

theorem handleLine_data (raw : List Nat) (c : Nat) (t : List Nat) (h : c ≠ 33) :
    handleLine raw false (c :: t) = .ok (raw ++ c :: t, false, none) := by
  rw [handleLine_collect, if_neg (by simpa [p1End] using h)]

theorem handleLine_end (raw : List Nat) (t : List Nat) (ro : Readout)
    (h : Readout.make (raw ++ 33 :: t) = .ok ro) :
    handleLine raw false (33 :: t) = .ok ([], true, some ro) := by
  rw [handleLine_collect, if_pos (by decide), h]

theorem handleLine_end_BI (raw : List Nat) (hunt : Bool) (tl : List Nat) (h : BI raw hunt) :
    ∃ ro, handleLine raw hunt (33 :: tl) = .ok ([], true, ro) := by
  cases hunt with
  | true =>
    obtain rfl := h.1 rfl
    exact ⟨none, handleLine_hunt [] 33 tl⟩
  | false =>
    obtain ⟨r0, rfl⟩ := h.2 rfl
    obtain ⟨ro, hro⟩ := make_succeeds (r0 ++ 33 :: tl) (by simp)
    exact ⟨some ro, handleLine_end _ _ _ hro⟩

theorem handleLine_BI (raw : List Nat) (hunt : Bool) (c : Nat) (t : List Nat) (h : BI raw hunt) :
    ∃ raw1 hunt1 ro, handleLine raw hunt (c :: t) = .ok (raw1, hunt1, ro) ∧ BI raw1 hunt1 := by
  cases hunt with
  | true =>
    obtain rfl := h.1 rfl
    rw [handleLine_hunt]
    split
    · rename_i hc
      simp only [Bool.and_eq_true, beq_iff_eq, p1Start] at hc
      exact ⟨_, _, _, rfl, hc.1.1 ▸ BI_false t⟩
    · exact ⟨_, _, _, rfl, BI_init⟩
  | false =>
    by_cases hc : c = 33
    · obtain ⟨ro, hro⟩ := handleLine_end_BI raw false t h
      exact ⟨[], true, ro, hc ▸ hro, BI_init⟩
    · obtain ⟨r, rfl⟩ := h.2 rfl
      exact ⟨_, false, none, handleLine_data _ _ _ hc, BI_false _⟩

theorem handleLine_len {raw : List Nat} {hunt : Bool} {line raw1 : List Nat} {hunt1 : Bool}
    {ro : Option Readout} (h : handleLine raw hunt line = .ok (raw1, hunt1, ro)) :
    raw1.length ≤ raw.length + line.length := by
  cases line with
  | nil => rw [handleLine_nil] at h; cases h
  | cons c rest =>
    cases hunt with
    | true =>
      have h' := Except.ok.inj (handleLine_hunt raw c rest ▸ h)
      split at h'
      · cases h'; rw [List.length_append]; exact Nat.le_refl _
      · cases h'; exact Nat.le_add_right _ _
    | false =>
      rw [handleLine_collect] at h
      split at h
      · split at h
        · cases h; exact Nat.zero_le _
        · cases h
      · cases h; rw [List.length_append]; exact Nat.le_refl _

theorem feed_BI (Ls : List (List Nat)) : ∀ raw hunt, BI raw hunt → (∀ l ∈ Ls, IsLine l) →
    ∃ raw' hunt' o, Feed raw hunt Ls raw' hunt' o ∧ BI raw' hunt' := by
  induction Ls with
  | nil => intro raw hunt hb _; exact ⟨raw, hunt, [], .nil _ _, hb⟩
  | cons l Ls ih =>
    intro raw hunt hb hL
    obtain ⟨body, rfl, hb10⟩ := hL l List.mem_cons_self
    obtain ⟨x, t, hxt⟩ := List.exists_cons_of_ne_nil (show body ++ [10] ≠ [] by simp)
    obtain ⟨raw1, hunt1, ro, hh, hb1⟩ := handleLine_BI raw hunt x t hb
    obtain ⟨raw', hunt', o, hf, hb'⟩ := ih raw1 hunt1 hb1 (fun l m => hL l (List.mem_cons_of_mem _ m))
    exact ⟨raw', hunt', _, .cons ⟨body, rfl, hb10⟩ (hxt ▸ hh) hf, hb'⟩

theorem loop_BI (b : Buf) (raw : List Nat) (hunt : Bool) (out : List Readout) (hb : BI raw hunt) :
    ∃ r o, loop b raw hunt out = .ok (r, out ++ o) ∧ BI r.raw r.hunt := by
  obtain ⟨c, Y⟩ := b
  obtain ⟨Ls, X, rfl, hL, hX⟩ := lines_of Y
  obtain ⟨raw', hunt', o, hf, hb'⟩ := feed_BI Ls raw hunt hb hL
  exact ⟨_, o, loop_feed hf c X out hX, hb'⟩

theorem read_BI (r : Reader) (chunk : List Nat) (h : BI r.raw r.hunt) :
    ∃ r' o, read r chunk = .ok (r', o) ∧ BI r'.raw r'.hunt := by
  simp only [read]
  apply loop_BI
  split
  · exact BI_init
  · simpa using h

theorem readAll_BI (chunks : List (List Nat)) : ∀ (r : Reader), BI r.raw r.hunt →
    ∃ r' os, readAll r chunks = .ok (r', os) ∧ BI r'.raw r'.hunt := by
  induction chunks with
  | nil => intro r h; exact ⟨r, [], rfl, h⟩
  | cons ch chs ih =>
    intro r h
    obtain ⟨r1, o, h1, h2⟩ := read_BI r ch h
    obtain ⟨r2, os, h3, h4⟩ := ih r1 h2
    exact ⟨r2, o :: os, by simp only [readAll, h1, h3], h4⟩

theorem reachable_BI {r : Reader} (hr : Reachable r) : BI r.raw r.hunt := by
  obtain ⟨chunks, outs, h⟩ := hr
  obtain ⟨r', outs', h', hb⟩ := readAll_BI chunks Reader.init BI_init
  rw [h] at h'
  cases h'
  exact hb

theorem loop_bound (b : Buf) (raw : List Nat) (hunt : Bool) (out : List Readout) (r : Reader)
    (outs : List Readout) (h : loop b raw hunt out = .ok (r, outs)) :
    r.buf.consumed + r.buf.inp.length = b.consumed + b.inp.length ∧
      r.raw.length + b.consumed ≤ raw.length + r.buf.consumed := by
  fun_induction loop b raw hunt out with
  | case1 b raw hunt out hp =>
    cases h
    exact ⟨rfl, Nat.le_refl _⟩
  | case2 b raw hunt out line b1 hp e he => cases h
  | case3 b raw hunt out line b1 hp raw1 hunt1 ro he ih =>
    obtain ⟨_, hinp, hcons⟩ := pop_eq_some hp
    have hl := handleLine_len he
    obtain ⟨h1, h2⟩ := ih h
    have : b.inp.length = line.length + b1.inp.length := by rw [hinp, List.length_append]
    constructor <;> omega

end Amshan.P1
