import Amshan.Lemmas.P1ParseRTLine
/-
  A rendered block is parsed back: `splitLines` cuts it into the texts of its lines, a blank line is
  dropped, and the fold over the rest collects the data sets line by line.
-/
open Amshan Amshan.Gen Amshan.Cosem Amshan.P1Parse Amshan.P1BlockSpec Amshan.Py
namespace Amshan.P1ParseRT

/-- the text of a line without its line end -/
def lineContent (l : LineDesc) : List Nat := l.sets.flatMap renderSet

theorem lineContent_printable {l : LineDesc} (h : l.WF) : ∀ x ∈ lineContent l, printable x := by
  intro x hx
  obtain ⟨d, hd, hx⟩ := List.mem_flatMap.1 hx
  obtain ⟨_, h2, _, h4⟩ := h d hd
  rcases List.mem_append.1 hx with hx | hx
  · exact (all_plain h2 x hx).2.2.2
  · obtain ⟨v, hv, hx⟩ := List.mem_flatMap.1 hx
    rw [renderValue_eq] at hx
    rcases List.mem_cons.1 hx with rfl | hx
    · decide
    · rcases List.mem_append.1 hx with hx | hx
      · exact (valueBody_chars (h4 v hv) x hx).2
      · cases List.mem_singleton.1 hx
        decide

theorem splitLinesGo_printable (content : List Nat) (h : ∀ x ∈ content, printable x) :
    ∀ (rest cur : List Nat), splitLinesGo (content ++ rest) cur false = splitLinesGo rest (content.reverse ++ cur) false := by
  induction content with
  | nil => intro rest cur; rfl
  | cons c cs ih =>
    intro rest cur
    have hc := h c (by simp)
    have h10 : (c == 10) = false := by simp; omega
    have h13 : (c == 13) = false := by simp; omega
    have hb : isLineBreak c = false := by
      simp only [isLineBreak, Bool.or_eq_false_iff, beq_eq_false_iff_ne, ne_eq]
      omega
    rw [List.cons_append, splitLinesGo]
    simp only [h10, h13, hb, Bool.false_and, Bool.false_eq_true, if_false]
    rw [ih (fun x hx => h x (by simp [hx]))]
    simp

theorem splitLinesGo_renderLine {l : LineDesc} (h : l.WF) (rest : List Nat) :
    splitLinesGo (renderLine l ++ rest) [] false = lineContent l :: splitLinesGo rest [] false := by
  unfold renderLine
  rw [List.append_assoc]
  show splitLinesGo (lineContent l ++ _) [] false = _
  rw [splitLinesGo_printable _ (lineContent_printable h)]
  cases l.crlf with
  | true =>
    simp only [if_true, List.cons_append, List.nil_append, List.append_nil]
    rw [splitLinesGo]
    simp only [show ((13 : Nat) == 10) = false by decide, Bool.false_and, Bool.false_eq_true, if_false,
      beq_self_eq_true, if_true, List.reverse_reverse]
    rw [splitLinesGo]
    simp
  | false =>
    simp only [Bool.false_eq_true, if_false, List.cons_append, List.nil_append, List.append_nil]
    rw [splitLinesGo]
    simp [isLineBreak]

theorem splitLines_render (b : List LineDesc) (h : ∀ l ∈ b, l.WF) :
    splitLines (render b) = b.map lineContent := by
  unfold splitLines render
  induction b with
  | nil => simp [splitLinesGo]
  | cons l b ih =>
    rw [List.flatMap_cons, splitLinesGo_renderLine (h l (by simp)), ih (fun l hl => h l (by simp [hl]))]
    simp

theorem strip_printable (s : List Nat) (h : ∀ x ∈ s, printable x) : strip s = s :=
  P1L.stripWith_none fun c hc => P1L.isStrSpace_of_gt (h c hc).1

theorem render_chars (b : List LineDesc) (h : ∀ l ∈ b, l.WF) :
    ∀ x ∈ render b, printable x ∨ x = 13 ∨ x = 10 := by
  intro x hx
  unfold render at hx
  rw [List.mem_flatMap] at hx
  obtain ⟨l, hl, hx⟩ := hx
  unfold renderLine at hx
  rw [List.mem_append] at hx
  rcases hx with hx | hx
  · exact Or.inl (lineContent_printable (h l hl) x hx)
  · right
    cases hcr : l.crlf <;> rw [hcr] at hx <;> simp at hx <;> omega

theorem render_isAscii (b : List LineDesc) (h : ∀ l ∈ b, l.WF) : isAscii (render b) = true := by
  unfold isAscii
  rw [List.all_eq_true]
  intro x hx
  have := render_chars b h x hx
  simp only [decide_eq_true_eq]
  omega

theorem lineLoop_lineContent {l : LineDesc} (h : l.WF) (hne : l.sets ≠ []) :
    lineContent l ≠ [] ∧
    ∃ n, lineLoop (lineContent l) ((lineContent l).length + 1) 0 [] 0 = .ok (l.sets.map parsedSet, n) := by
  cases hs : l.sets with
  | nil => exact absurd hs hne
  | cons d ds =>
    have hl : lineContent l = (d :: ds).flatMap renderSet := by rw [lineContent, hs]
    have hw : ∀ w ∈ d :: ds, w.WF := fun w hw => h w (hs ▸ hw)
    refine ⟨?_, ?_⟩
    · rw [hl, List.flatMap_cons]
      exact (renderSet_head_ne (hw d (by simp)) _).2
    · simpa using lineLoop_sets (lineContent l) ds d 0 [] 0 _ hl hw (by rw [hl]; simp)

theorem foldl_block (b : List LineDesc) (h : ∀ l ∈ b, l.WF) :
    ∀ (items : List DataSet) (iters : Nat),
      ∃ n, ((b.map lineContent).filter (fun l => !(strip l).isEmpty)).foldl lineStep (.ok (items, iters)) =
        .ok (items ++ (b.flatMap (·.sets)).map parsedSet, n) := by
  induction b with
  | nil => intro items iters; exact ⟨iters, by simp⟩
  | cons l b ih =>
    intro items iters
    have hl := h l (by simp)
    have ih' := ih (fun l hl => h l (by simp [hl]))
    by_cases hs : l.sets = []
    · have hc : lineContent l = [] := by simp [lineContent, hs]
      obtain ⟨n, hn⟩ := ih' items iters
      refine ⟨n, ?_⟩
      simp only [List.map_cons, hc, List.filter_cons, strip_nil, List.isEmpty_nil, Bool.not_true, Bool.false_eq_true,
        if_false, List.flatMap_cons, hs, List.nil_append]
      exact hn
    · have hstrip := strip_printable _ (lineContent_printable hl)
      obtain ⟨hcne, n1, hn1⟩ := lineLoop_lineContent hl hs
      rw [← List.isEmpty_eq_false_iff] at hcne
      obtain ⟨n, hn⟩ := ih' (items ++ l.sets.map parsedSet) (iters + n1)
      refine ⟨n, ?_⟩
      simp only [List.map_cons, List.filter_cons, hstrip, hcne, Bool.not_false, if_true, List.foldl_cons]
      have : lineStep (.ok (items, iters)) (lineContent l) = .ok (items ++ l.sets.map parsedSet, iters + n1) := by
        simp [lineStep, hn1]
      rw [this, hn]
      simp

theorem parseContent_render (b : List LineDesc) (h : ∀ l ∈ b, l.WF) :
    ∃ iters, parseContent (render b) = .ok ((b.flatMap (·.sets)).map parsedSet, iters) := by
  unfold parseContent
  rw [render_isAscii b h]
  simp only [Bool.not_true, Bool.false_eq_true, if_false]
  rw [parseDataBlock_eq, splitLines_render b h]
  obtain ⟨n, hn⟩ := foldl_block b h [] 0
  exact ⟨n, by simpa using hn⟩

end Amshan.P1ParseRT
