import Amshan.Lemmas.GenCodeHdlcReader
import Amshan.Lemmas.HdlcTotal
import Amshan.GeneratedCodeHdlcRead
/- `HdlcFrameReader.read(data_chunk)` and the input buffer `_ReaderBuffer` of han/hdlc.py against the buffer-level model
   (`Buf` and its functions, `loop`, `read` of Model/Hdlc.lean).

   The Python-level state keeps the WHOLE bytearray (`PyBuf`: contents and read position); the model keeps the number
   of octets before the read position and the unread octets.  `absBuf` / `absReader` are the abstraction, `BufInv`
   the invariant under which every buffer method commutes with it (`extend` alone needs it).

   Here `self` is the record `PyReader` (the attributes of `Core`, and `_buffer`), so that `self._buffer.pop()` in
   `_read_next` and `self._buffer.trim_buffer_to_flag_or_end()` in `_goto_hunt_mode` are calls of the translated
   buffer methods.  The five methods of the state machine are therefore translated a second time, as `hdlcRd..`;
   `rd_*_core` ties each to its translation on `Core`: the same state machine, the popped octet as the parameter, the
   recorded `trimmed` as the real buffer operation.  What GenCodeHdlcReader.lean proves carries over, and the model is
   not consulted a second time. -/
set_option linter.unusedSimpArgs false
set_option linter.unusedVariables false
namespace Amshan.GenLemmas
open Amshan.GenCode Amshan.Gen Amshan.Hdlc

/-- the invariant of `_ReaderBuffer`: `_buffer_pos ≤ len(_buffer)` -/
def BufInv (b : PyBuf) : Prop := b.pos ≤ b.buffer.length

/-- the model forgets the contents of the bytearray before the read position -/
def absBuf (b : PyBuf) : Buf := { consumed := b.pos, inp := b.buffer.drop b.pos }

/-- the attributes of the reader that the state machine works on -/
def coreOf (r : PyReader) : Core := { unescapeNext := r.unescapeNext, raw := r.raw, frame := r.frame }

def mkReader (c : Core) (b : PyBuf) : PyReader := { unescapeNext := c.unescapeNext, raw := c.raw, frame := c.frame, buf := b }

def absReader (r : PyReader) : Reader := { core := coreOf r, buf := absBuf r.buf }

def ReaderInv (r : PyReader) : Prop := BufInv r.buf

theorem mkReader_coreOf (r : PyReader) : mkReader (coreOf r) r.buf = r := rfl
theorem coreOf_mkReader (c : Core) (b : PyBuf) : coreOf (mkReader c b) = c := rfl
theorem buf_mkReader (c : Core) (b : PyBuf) : (mkReader c b).buf = b := rfl

theorem notFlag_eq : notFlag = fun x => x != flagOctet := rfl

theorem hdlcBufIsAvailable_eq (b : PyBuf) : hdlcBufIsAvailable b = !(absBuf b).inp.isEmpty := by
  unfold hdlcBufIsAvailable absBuf
  by_cases h : b.pos < b.buffer.length
  · have : b.buffer.drop b.pos ≠ [] := by simp; omega
    simp [h, List.isEmpty_iff, this] <;> gen_decide
  · have : b.buffer.drop b.pos = [] := List.drop_eq_nil_of_le (by omega)
    simp [h, this] <;> gen_decide

theorem absBuf_inp_cons {b : PyBuf} {x : Nat} {rest : List Nat} (h : (absBuf b).inp = x :: rest) :
    b.pos < b.buffer.length ∧ b.buffer.getD b.pos 0 = x ∧ b.buffer.drop (b.pos + 1) = rest := by
  have hlt : b.pos < b.buffer.length := by
    false_or_by_contra
    simp [absBuf, List.drop_eq_nil_of_le (Nat.le_of_not_lt ‹_›)] at h
  simp only [absBuf, List.drop_eq_getElem_cons hlt, List.cons.injEq] at h
  simp [List.getD, hlt, h.1, h.2]

theorem hdlcBufPop_eq (b : PyBuf) (x : Nat) (rest : List Nat) (h : (absBuf b).inp = x :: rest) :
    (hdlcBufPop b).2 = x ∧ absBuf (hdlcBufPop b).1 = { consumed := (absBuf b).consumed + 1, inp := rest } ∧
      BufInv (hdlcBufPop b).1 := by
  obtain ⟨hlt, hx, hrest⟩ := absBuf_inp_cons h
  unfold hdlcBufPop
  refine ⟨by simpa using hx, ?_, ?_⟩
  · simp [absBuf, hrest]
  · simp [BufInv]; omega

theorem hdlcBufExtend_eq (b : PyBuf) (chunk : List Nat) (hb : BufInv b) :
    absBuf (hdlcBufExtend b chunk) = (absBuf b).extend chunk ∧ BufInv (hdlcBufExtend b chunk) := by
  unfold hdlcBufExtend absBuf Buf.extend BufInv at *
  refine ⟨?_, by simp; omega⟩
  simp [List.drop_append_of_le_length hb]

theorem hdlcBufTrimToPos_val (b : PyBuf) : hdlcBufTrimToPos b = { buffer := b.buffer.drop b.pos, pos := 0 } := by
  unfold hdlcBufTrimToPos
  rcases b with ⟨l, p⟩
  simp <;> gen_decide

theorem hdlcBufTrimToPos_eq (b : PyBuf) :
    absBuf (hdlcBufTrimToPos b) = (absBuf b).trimToPos ∧ BufInv (hdlcBufTrimToPos b) := by
  rw [hdlcBufTrimToPos_val]
  simp [absBuf, Buf.trimToPos, BufInv]

theorem hdlcBufTrimToFlagOrEnd_val (b : PyBuf) :
    hdlcBufTrimToFlagOrEnd b = { buffer := (b.buffer.drop b.pos).dropWhile notFlag, pos := 0 } := by
  unfold hdlcBufTrimToFlagOrEnd
  simp only [hdlcBufTrimToPos_val, notFlag_eq]
  -- whichever of the tests `p == -1`, `p < 0`, `p > 0`, `p >= 0` the source uses on the answer `p` of `find`
  rcases GenRt.find_cases (b.buffer.drop b.pos) flagOctet with ⟨h, hd⟩ | ⟨n, h, hd⟩
  · simp [h, hd] <;> gen_decide
  · have hnn : (0 : Int) ≤ Int.ofNat n := Int.natCast_nonneg n
    simp only [h, hd]
    grind [GenRt.sliceFrom_of_nonneg, GenRt.toNat_ofNat]

theorem hdlcBufTrimToFlagOrEnd_eq (b : PyBuf) :
    absBuf (hdlcBufTrimToFlagOrEnd b) = (absBuf b).trimToFlagOrEnd ∧ BufInv (hdlcBufTrimToFlagOrEnd b) := by
  rw [hdlcBufTrimToFlagOrEnd_val]
  simp [absBuf, Buf.trimToFlagOrEnd, BufInv]

/-- what the flag `trimmed` of the translation on `Core` stands for -/
def trimIf (trimmed : Bool) (b : PyBuf) : PyBuf := if trimmed then hdlcBufTrimToFlagOrEnd b else b

theorem rd_startFrame_core (r : PyReader) : hdlcRdStartFrame r = mkReader (hdlcStartFrame (coreOf r)) r.buf := by
  unfold hdlcRdStartFrame hdlcStartFrame
  rcases r with ⟨u, raw, fr, buf⟩
  simp only [coreOf, mkReader] <;> gen_decide

theorem rd_gotoHunt_core (r : PyReader) :
    hdlcRdGotoHuntMode r = mkReader (hdlcGotoHuntMode (coreOf r)).1 (hdlcBufTrimToFlagOrEnd r.buf) := by
  unfold hdlcRdGotoHuntMode hdlcGotoHuntMode
  rcases r with ⟨u, raw, fr, buf⟩
  simp only [coreOf, mkReader] <;> gen_decide

theorem rd_appendToFrame_core (cfg : Cfg) (r : PyReader) (x : Nat) :
    hdlcRdAppendToFrame cfg r x = mkReader (hdlcAppendToFrame cfg (coreOf r) x) r.buf := by
  unfold hdlcRdAppendToFrame hdlcAppendToFrame
  rcases r with ⟨u, raw, fr, buf⟩
  simp only [coreOf, mkReader] <;> gen_decide

theorem rd_handleFlag_core (cfg : Cfg) (r : PyReader) :
    hdlcRdHandleFlagSequence cfg r =
      (mkReader (hdlcHandleFlagSequence cfg (coreOf r)).1 (trimIf (hdlcHandleFlagSequence cfg (coreOf r)).2.1 r.buf),
        (hdlcHandleFlagSequence cfg (coreOf r)).2.2) := by
  unfold hdlcRdHandleFlagSequence hdlcHandleFlagSequence
  simp only [rd_startFrame_core, rd_gotoHunt_core, rd_appendToFrame_core, hdlcGotoHuntMode_eq, coreOf_mkReader, buf_mkReader]
  rcases r with ⟨u, raw, fr, buf⟩
  simp only [coreOf, mkReader, trimIf]
  gen_decide

theorem rd_readNext_core (cfg : Cfg) (r : PyReader) :
    hdlcRdReadNext cfg r =
      (mkReader (hdlcReadNext cfg (coreOf r) (hdlcBufPop r.buf).2).1
        (trimIf (hdlcReadNext cfg (coreOf r) (hdlcBufPop r.buf).2).2.1 (hdlcBufPop r.buf).1),
       (hdlcReadNext cfg (coreOf r) (hdlcBufPop r.buf).2).2.2) := by
  unfold hdlcRdReadNext hdlcReadNext
  simp only [rd_handleFlag_core, rd_gotoHunt_core, rd_appendToFrame_core, hdlcGotoHuntMode_eq, coreOf_mkReader, buf_mkReader]
  rcases r with ⟨u, raw, fr, buf⟩
  simp only [coreOf, mkReader, trimIf]
  gen_decide

theorem loop_nil (cfg : Cfg) (c : Core) (b : Buf) (out : List Frame) (h : b.inp = []) :
    loop cfg c b out = (c, b, out) := by
  rw [loop]; split
  · rfl
  · rename_i x rest h2; rw [h] at h2; cases h2

theorem loop_cons (cfg : Cfg) (c : Core) (b : Buf) (out : List Frame) (x : Nat) (rest : List Nat) (h : b.inp = x :: rest) :
    loop cfg c b out =
      (match readNext cfg c x with
       | (c1, .cont) => loop cfg c1 { consumed := b.consumed + 1, inp := rest } out
       | (c1, .hunt) => loop cfg c1 (Buf.trimToFlagOrEnd { consumed := b.consumed + 1, inp := rest }) out
       | (c1, .complete) => loop cfg (startFrame c1) (Buf.trimToPos { consumed := b.consumed + 1, inp := rest })
           (out ++ c1.frame.toList)) := by
  rw [loop]; split
  · rename_i h2; rw [h] at h2; cases h2
  · rename_i x' rest' h2
    rw [h] at h2
    injection h2 with hx hr
    subst hx; subst hr
    rfl

/-- The `while self._buffer.is_available:` loop is a recursion on fuel that answers `oof` when the fuel is used up.  For
    every `oof` and every fuel larger than the number of unread octets it is the model's `loop` followed by the final
    `trim_buffer_to_current_position()` - so the fuel that `hdlcRdRead` grants never runs out. -/
theorem hdlcRdRead_loop_eq (cfg : Cfg) (r0 : PyReader) (chunk : List Nat) (oof : PyReader × List Frame) :
    ∀ (fuel : Nat) (c : Core) (buf : PyBuf) (frames : List Frame),
      BufInv buf → (absBuf buf).inp.length < fuel →
      absReader (hdlcRdRead.loop1 cfg r0 chunk oof fuel c.unescapeNext c.raw c.frame buf frames).1
          = { core := (loop cfg c (absBuf buf) frames).1, buf := (loop cfg c (absBuf buf) frames).2.1.trimToPos } ∧
        (hdlcRdRead.loop1 cfg r0 chunk oof fuel c.unescapeNext c.raw c.frame buf frames).2
          = (loop cfg c (absBuf buf) frames).2.2 ∧
        ReaderInv (hdlcRdRead.loop1 cfg r0 chunk oof fuel c.unescapeNext c.raw c.frame buf frames).1 := by
  intro fuel
  induction fuel with
  | zero => intro c buf frames hb hlt; omega
  | succ n ih =>
    intro c buf frames hb hlt
    unfold hdlcRdRead.loop1
    have hrec : ({ unescapeNext := c.unescapeNext, raw := c.raw, frame := c.frame, buf := buf } : PyReader) = mkReader c buf := rfl
    simp only [hrec, rd_readNext_core, hdlcReadNext_eq, rd_startFrame_core, hdlcStartFrame_eq, hdlcBufIsAvailable_eq, coreOf_mkReader, buf_mkReader]
    cases hinp : (absBuf buf).inp with
    | nil =>
      rw [loop_nil cfg c _ frames hinp]
      have htp := hdlcBufTrimToPos_eq buf
      simp [absReader, coreOf, ReaderInv, htp.1, htp.2]
    | cons x rest =>
      obtain ⟨hx, hpop, hinv⟩ := hdlcBufPop_eq buf x rest hinp
      rw [loop_cons cfg c _ frames x rest hinp]
      rw [hinp] at hlt
      simp only [List.length_cons] at hlt
      simp only [hx, List.isEmpty_cons, Bool.not_false, if_true]
      rcases hrn : readNext cfg c x with ⟨c1, a⟩
      cases a with
      | cont =>
        simp only [actFlags, trimIf, Bool.false_eq_true, if_false]
        have := ih c1 (hdlcBufPop buf).1 frames hinv (by rw [hpop]; simp; omega)
        rw [hpop] at this
        exact this
      | hunt =>
        simp only [actFlags, trimIf, Bool.false_eq_true, if_false]
        have htf := hdlcBufTrimToFlagOrEnd_eq (hdlcBufPop buf).1
        have hle := length_dropWhile_le notFlag rest
        have := ih c1 (hdlcBufTrimToFlagOrEnd (hdlcBufPop buf).1) frames htf.2
          (by rw [htf.1, hpop]; simp only [Buf.trimToFlagOrEnd]; omega)
        rw [htf.1, hpop] at this
        exact this
      | complete =>
        obtain ⟨f, hf⟩ := readNext_complete_frame hrn
        simp only [actFlags, trimIf, if_true]
        have htp := hdlcBufTrimToPos_eq (hdlcBufPop buf).1
        have := ih (startFrame c1) (hdlcBufTrimToPos (hdlcBufPop buf).1) (frames ++ [f]) htp.2
          (by rw [htp.1, hpop]; simp only [Buf.trimToPos]; omega)
        rw [htp.1, hpop] at this
        simpa [mkReader, hf, startFrame] using this

theorem hdlcRdRead_eq (cfg : Cfg) (r : PyReader) (chunk : List Nat) (hr : ReaderInv r) :
    absReader (hdlcRdRead cfg r chunk).1 = (Hdlc.read cfg (absReader r) chunk).1 ∧
      (hdlcRdRead cfg r chunk).2 = (Hdlc.read cfg (absReader r) chunk).2 ∧ ReaderInv (hdlcRdRead cfg r chunk).1 := by
  unfold hdlcRdRead Hdlc.read
  have hext := hdlcBufExtend_eq r.buf chunk hr
  have hlen : (absBuf (hdlcBufExtend r.buf chunk)).inp.length ≤ r.buf.buffer.length + chunk.length := by
    rw [hext.1]; simp [Buf.extend, absBuf] <;> omega
  cases hfr : r.frame with
  | none =>
    have htf := hdlcBufTrimToFlagOrEnd_eq (hdlcBufExtend r.buf chunk)
    have hle := length_dropWhile_le notFlag (absBuf (hdlcBufExtend r.buf chunk)).inp
    have := hdlcRdRead_loop_eq cfg r chunk default (r.buf.buffer.length + chunk.length + 1) (coreOf r)
      (hdlcBufTrimToFlagOrEnd (hdlcBufExtend r.buf chunk)) [] htf.2
      (by rw [htf.1]; simp only [Buf.trimToFlagOrEnd]; omega)
    rw [htf.1, hext.1] at this
    simpa [coreOf, absReader, hfr] using this
  | some f =>
    have := hdlcRdRead_loop_eq cfg r chunk default (r.buf.buffer.length + chunk.length + 1) (coreOf r)
      (hdlcBufExtend r.buf chunk) [] hext.2 (by omega)
    rw [hext.1] at this
    simpa [coreOf, absReader, hfr] using this

end Amshan.GenLemmas
