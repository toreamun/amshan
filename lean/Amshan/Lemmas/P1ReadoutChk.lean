import Amshan.Lemmas.P1ReadoutBase
import Amshan.Lemmas.P1ReadoutGrammar
/-
  The `DataReadout` object.  Every failure of the partial primitives `is_valid` calls is a ValueError,
  which it catches, so `is_valid` is one Boolean (`isValid_eq`); it is true exactly when the
  identification line, the data block and the end line check out (`isValid_true_iff`, for any readout
  whose `endPos` is at a '!'; `C04.valid_iff` and the validity of well-formed readouts are instances).
-/
namespace Amshan.P1L
open Amshan.Gen Amshan.P1 Amshan.P1Spec Amshan.Py

theorem lstripBytes_cons (b : Nat) (t : List Nat) (h : isBytesSpace b = false) :
    lstripBytes (b :: t) = b :: t := by
  simp [lstripBytes, h]

/-- everything `DataReadout.__init__` establishes -/
theorem make_ok (raw : List Nat) (r : Readout) (h : Readout.make raw = .ok r) :
    r.bytes = lstripBytes raw ∧ (∃ t, r.bytes = 47 :: t) ∧ find r.bytes 33 = some r.endPos ∧
    r.dataPos = (match find r.bytes 10 with | some i => i + 1 | none => 0) := by
  unfold Readout.make at h
  simp only at h
  split at h
  · simp at h
  · rename_i b t hb
    split at h
    · simp at h
    · rename_i hne
      have hb47 : b = 47 := by
        simpa [p1Start] using hne
      split at h
      · simp at h
      · rename_i e he
        simp only [Except.ok.injEq] at h
        subst h
        refine ⟨rfl, ⟨t, by rw [hb, hb47]⟩, ?_, ?_⟩
        · simpa [p1End] using he
        · rfl

theorem make_of_facts (raw t : List Nat) (e : Nat) (hs : lstripBytes raw = 47 :: t)
    (he : find (47 :: t) 33 = some e) :
    Readout.make raw = .ok (Readout.mk (47 :: t) e
      (match find (47 :: t) 10 with | some i => i + 1 | none => 0)) := by
  unfold Readout.make
  simp only [hs, p1Start, p1End, p1Lf, he]
  simp
  cases find (47 :: t) 10 <;> rfl

theorem make_drop_endPos (raw : List Nat) (r : Readout) (h : Readout.make raw = .ok r) :
    r.bytes.drop r.endPos = 33 :: r.afterBang := by
  obtain ⟨_, _, hf, _⟩ := make_ok raw r h
  obtain ⟨_, _, h3, h4⟩ := find_some_take_drop _ _ _ hf
  rw [List.drop_eq_getElem_cons h4, (List.getElem?_eq_some_iff.mp h3).2]
  rfl

theorem calcCrc_eq_arc (r : Readout) : (r.calcCrc) = crc16Arc (r.bytes.take (r.endPos + 1)) := by
  unfold Readout.calcCrc; exact crc16_eq_arc _

theorem payload_exact (raw : List Nat) (r : Readout) (hm : Readout.make raw = .ok r)
    (a p z : List Nat) (hb : r.bytes = a ++ [10] ++ p ++ [33] ++ z) (ha : 10 ∉ a)
    (hp : 33 ∉ a ++ [10] ++ p) : r.payload = p := by
  obtain ⟨_, _, hf, hdp⟩ := make_ok raw r hm
  have h33 : r.bytes = (a ++ [10] ++ p) ++ 33 :: z := by rw [hb]; simp
  have h10 : r.bytes = a ++ 10 :: (p ++ [33] ++ z) := by rw [hb]; simp
  have he : r.endPos = (a ++ [10] ++ p).length := by
    have := find_append_of_not_mem (a ++ [10] ++ p) z 33 hp
    rw [← h33, hf] at this
    exact Option.some.inj this
  have hd : r.dataPos = a.length + 1 := by
    have := find_append_of_not_mem a (p ++ [33] ++ z) 10 ha
    rw [← h10] at this
    rw [hdp, this]
  unfold Readout.payload slice
  rw [he, hd, h33, List.take_left, List.append_assoc]
  have : a.length + 1 = (a ++ [10]).length := by simp
  rw [← List.append_assoc, this, List.drop_left]

/-- a readout cut at its first LF and its first '!' : '/' `line` LF `data` '!' `after` -/
def cutReadout (line data after : List Nat) : Readout :=
  { bytes := 47 :: line ++ [10] ++ data ++ [33] ++ after
    endPos := (47 :: line ++ [10] ++ data).length
    dataPos := (47 :: line ++ [10]).length }

theorem cut_take_dataPos (l d a : List Nat) :
    (cutReadout l d a).bytes.take (cutReadout l d a).dataPos = 47 :: l ++ [10] := by
  have e : (cutReadout l d a).bytes = (47 :: l ++ [10]) ++ (d ++ [33] ++ a) := by simp [cutReadout]
  rw [e]; exact List.take_left

theorem cut_take_endPos (l d a : List Nat) :
    (cutReadout l d a).bytes.take ((cutReadout l d a).endPos + 1) = 47 :: l ++ [10] ++ d ++ [33] := by
  have e : (cutReadout l d a).endPos + 1 = (47 :: l ++ [10] ++ d ++ [33]).length := by
    rw [List.length_append]; rfl
  rw [e]; exact List.take_left

theorem cut_drop_endPos (l d a : List Nat) :
    (cutReadout l d a).bytes.drop (cutReadout l d a).endPos = 33 :: a := by
  have e : (cutReadout l d a).bytes = (47 :: l ++ [10] ++ d) ++ (33 :: a) := by simp [cutReadout]
  rw [e]; exact List.drop_left

theorem cut_afterBang (l d a : List Nat) : (cutReadout l d a).afterBang = a := by
  have e : (cutReadout l d a).endPos + 1 = (47 :: l ++ [10] ++ d ++ [33]).length := by
    rw [List.length_append]; rfl
  unfold Readout.afterBang
  rw [e]; exact List.drop_left

theorem cut_payload (l d a : List Nat) : (cutReadout l d a).payload = d := by
  have e : (cutReadout l d a).bytes = (47 :: l ++ [10] ++ d) ++ (33 :: a) := by simp [cutReadout]
  show ((cutReadout l d a).bytes.take (47 :: l ++ [10] ++ d).length).drop (47 :: l ++ [10]).length = d
  rw [e, List.take_left]
  exact List.drop_left

theorem make_cut (ws l d a : List Nat) (hws : ws.all isBytesSpace = true) (hl : 10 ∉ l)
    (hb : 33 ∉ l ++ [10] ++ d) :
    Readout.make (ws ++ (47 :: l ++ [10] ++ d ++ [33] ++ a)) = .ok (cutReadout l d a) := by
  have hs : lstripBytes (ws ++ (47 :: l ++ [10] ++ d ++ [33] ++ a)) = 47 :: (l ++ [10] ++ d ++ [33] ++ a) := by
    unfold lstripBytes
    rw [dropWhile_append_all _ _ _ hws]
    rfl
  have h33 : 33 ∉ 47 :: (l ++ [10] ++ d) := by simpa using hb
  have h10 : 10 ∉ 47 :: l := by simpa using hl
  have hfb := find_append_of_not_mem _ a 33 h33
  have hfl := find_append_of_not_mem _ (d ++ [33] ++ a) 10 h10
  have e1 : 47 :: (l ++ [10] ++ d ++ [33] ++ a) = (47 :: (l ++ [10] ++ d)) ++ 33 :: a := by simp
  have e2 : 47 :: (l ++ [10] ++ d ++ [33] ++ a) = (47 :: l) ++ 10 :: (d ++ [33] ++ a) := by simp
  rw [make_of_facts _ _ _ hs (e1 ▸ hfb), e2, hfl]
  simp [cutReadout]

theorem endLine_eq (r : Readout) (ab : List Nat) (hd : r.bytes.drop r.endPos = 33 :: ab) :
    r.endLine = if ab.all (· < 128) then .ok (strip (33 :: ab)) else .error .unicodeError := by
  unfold Readout.endLine decodeAscii
  rw [hd]
  simp only [List.all_cons, show decide (33 < 128) = true from rfl, Bool.true_and]
  split <;> rfl

theorem expectedChecksum_general (r : Readout) (ab : List Nat) (hd : r.bytes.drop r.endPos = 33 :: ab) :
    r.expectedChecksum =
      if ab.all (· < 128) then
        (if ab.all isStrSpace then .ok none else (intBase16 (strip ab)).map some)
      else .error .unicodeError := by
  unfold Readout.expectedChecksum
  rw [endLine_eq r ab hd]
  by_cases hasc : ab.all (· < 128) = true
  · rw [if_pos hasc, if_pos hasc]
    obtain ⟨w1, w2, hs, h1, h2, htr⟩ := strip_decomp ab
    simp only [bind, Except.bind, pure, Except.pure]
    by_cases hsp : ab.all isStrSpace = true
    · rw [if_pos hsp, strip_single 33 ab (by decide) hsp]
      rfl
    · rw [if_neg hsp]
      have hne : strip ab ≠ [] := fun hnil => hsp ((strip_eq_nil_iff ab).1 hnil)
      obtain ⟨u, y, huy⟩ := exists_snoc (strip ab) hne
      have hstr : strip (33 :: ab) = 33 :: (w1 ++ u) ++ [y] := by
        rw [← strip_core 33 y (w1 ++ u) w2 (by decide) (htr.2 y u huy) h2]
        congr 1
        rw [hs, huy]
        simp only [List.cons_append, List.append_assoc]
      have hlen : (33 :: (w1 ++ u) ++ [y]).length > 1 := by simp; omega
      have hdrop : (33 :: (w1 ++ u) ++ [y]).drop 1 = w1 ++ strip ab ++ [] := by
        rw [huy]; simp
      rw [hstr, if_pos hlen, hdrop, strip_of_decomp w1 (strip ab) [] h1 rfl htr]
      cases intBase16 (strip ab) <;> rfl
  · rw [if_neg hasc, if_neg hasc]
    rfl

theorem identLine_ok_iff (r : Readout) (m : IdentMatch) : r.identLine = .ok m ↔
    (∀ x ∈ r.bytes.take r.dataPos, x < 128) ∧ identMatch (strip (r.bytes.take r.dataPos)) = some m := by
  unfold Readout.identLine decodeAscii
  by_cases hasc : (r.bytes.take r.dataPos).all (· < 128) = true
  · have hall : ∀ x ∈ r.bytes.take r.dataPos, x < 128 := by simpa [List.all_eq_true] using hasc
    simp only [hasc, if_true, bind, Except.bind, pure, Except.pure]
    cases identMatch (strip (r.bytes.take r.dataPos)) with
    | none => simp
    | some m' =>
      simp only [Except.ok.injEq, Option.some.injEq]
      exact ⟨fun h => ⟨hall, h⟩, fun h => h.2⟩
  · have hall : ¬ ∀ x ∈ r.bytes.take r.dataPos, x < 128 := by simpa [List.all_eq_true] using hasc
    simp only [hasc, bind, Except.bind]
    exact ⟨fun h => (by cases h), fun h => absurd h.1 hall⟩

theorem expectedChecksum_err (r : Readout) (e : PyExc) (h : r.expectedChecksum = .error e) :
    isValueError e = true := by
  simp only [Readout.expectedChecksum, Readout.endLine, bind, Except.bind, pure, Except.pure] at h
  split at h
  · rename_i e' hd
    split at hd
    · rename_i e'' hd'
      cases hd; cases h
      rw [decodeAscii_error hd']; rfl
    · cases hd
  · split at h
    · split at h
      · rename_i e' hi
        cases h
        rw [intBase16_error hi]; rfl
      · cases h
    · cases h

theorem identLine_err (r : Readout) (e : PyExc) (h : r.identLine = .error e) :
    isValueError e = true := by
  simp only [Readout.identLine, bind, Except.bind, pure, Except.pure] at h
  split at h
  · rename_i e' hd
    cases h
    rw [decodeAscii_error hd]; rfl
  · split at h
    · cases h
    · cases h; rfl

/-- the mismatch test of `is_valid` -/
def mismatch (r : Readout) (expected : Option Int) : Bool :=
  match expected with | some v => decide ((r.calcCrc : Int) ≠ v) | none => false

/-- `is_valid` never raises; it is this Boolean -/
theorem isValid_eq (r : Readout) : r.isValid = .ok (match r.expectedChecksum, r.identLine with
    | .ok expected, .ok _ => !mismatch r expected && r.payload.all (fun ch => !(decide (ch > 0x80)))
    | _, _ => false) := by
  unfold Readout.isValid
  cases he : r.expectedChecksum with
  | error e => simp [expectedChecksum_err r e he]
  | ok expected =>
    show (if mismatch r expected = true then _ else _) = _
    cases hi : r.identLine with
    | error e => cases mismatch r expected <;> simp [identLine_err r e hi]
    | ok m => cases hm : mismatch r expected <;> simp [hm]

theorem isValid_total (r : Readout) : ∃ b, r.isValid = .ok b := ⟨_, isValid_eq r⟩

theorem checksum_ok_iff (r : Readout) (ab : List Nat) (hd : r.bytes.drop r.endPos = 33 :: ab) :
    (∃ expected, r.expectedChecksum = .ok expected ∧ mismatch r expected = false) ↔
    (∀ x ∈ ab, x < 128) ∧ (ab.all isStrSpace = true ∨
      IsEndHexInt ab (crc16Arc (r.bytes.take (r.endPos + 1)) : Nat)) := by
  rw [expectedChecksum_general r ab hd, ← intBase16_strip_ok_iff, ← calcCrc_eq_arc]
  have hall : (ab.all (· < 128) = true) ↔ ∀ x ∈ ab, x < 128 := by simp [List.all_eq_true]
  by_cases hasc : ab.all (· < 128) = true
  · rw [if_pos hasc]
    by_cases hsp : ab.all isStrSpace = true
    · rw [if_pos hsp]
      exact ⟨fun _ => ⟨hall.1 hasc, Or.inl hsp⟩, fun _ => ⟨none, rfl, rfl⟩⟩
    · rw [if_neg hsp]
      constructor
      · rintro ⟨expected, hexp, hmm⟩
        cases hi : intBase16 (strip ab) with
        | error e => rw [hi] at hexp; cases hexp
        | ok v =>
          rw [hi] at hexp
          cases hexp
          have : (r.calcCrc : Int) = v := by simpa [mismatch] using hmm
          exact ⟨hall.1 hasc, Or.inr (by rw [this])⟩
      · rintro ⟨_, h | h⟩
        · exact absurd h hsp
        · rw [h]
          exact ⟨_, rfl, by simp [mismatch]⟩
  · rw [if_neg hasc]
    constructor
    · rintro ⟨_, h, _⟩; cases h
    · rintro ⟨h, _⟩; exact absurd (hall.2 h) hasc

theorem isValid_true_iff (r : Readout) (ab : List Nat) (hd : r.bytes.drop r.endPos = 33 :: ab) :
    r.isValid = .ok true ↔
    ((∀ x ∈ r.bytes.take r.dataPos, x < 128) ∧ ∃ m, identMatch (strip (r.bytes.take r.dataPos)) = some m) ∧
    (∀ x ∈ r.payload, x ≤ 0x80) ∧
    (∀ x ∈ ab, x < 128) ∧ (ab.all isStrSpace = true ∨
      IsEndHexInt ab (crc16Arc (r.bytes.take (r.endPos + 1)) : Nat)) := by
  rw [← checksum_ok_iff r ab hd, ← exists_and_left]
  simp only [← identLine_ok_iff, isValid_eq]
  cases r.expectedChecksum <;> cases r.identLine <;> simp [Nat.not_lt, and_comm]

end Amshan.P1L
