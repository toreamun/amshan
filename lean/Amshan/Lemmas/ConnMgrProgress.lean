import Amshan.Lemmas.ConnMgr
/-
  Progress rests on a rank: while the manager is reconnecting and no connection is live, every step of
  its own tasks and every factory result is the next attempt or lowers `rank`; clock advances leave it
  alone (`progress_step`).  A path to the next attempt comes by induction on the rank; on an infinite
  fair run the same induction takes the next step that is not a clock advance from fairness.
-/
namespace Amshan.ConnMgr
open Amshan.BackOff

/-- number of connection attempts made so far -/
def attempts (s : S) : Nat := s.log.countP (fun x => x.2 == Ev.attempt)

/-- upper bound on the number of task steps / factory results still needed before the next attempt
    (clock advances not counted), for a manager that is not closing and holds no live connection -/
def rank (s : S) : Nat :=
  match s.lpc, s.t, s.conn with
  | .start, _, _ => 3
  | .w1, .created, _ => 2
  | .w1, .sleeping _, _ => 1
  | .w1, .inFactory, _ => 4
  | .w1, .finished, none => 3
  | .w1, .finished, some _ => 4
  | .w2, _, _ => 3
  | _, _, _ => 0

theorem progress_step {s s' : S} {l : Label} (hi : Inv s) (ha : active s) (hlive : s.live = [])
    (hcl : l ≠ .close) (htk : ∀ d, l ≠ .tick d) (hs : Step s l s') :
    attempts s' = attempts s + 1 ∨ (l = .factoryOk ∧ s.t = .inFactory ∧ s'.live ≠ []) ∨
      (active s' ∧ s'.live = [] ∧ attempts s' = attempts s ∧ rank s' < rank s ∧
        (s.t ≠ .inFactory → s'.t ≠ .inFactory)) := by
  have ha' := active_step hs hcl ha
  cases hs
  case closeIdle | closeLive => exact absurd rfl hcl
  case tick => exact absurd rfl (htk _)
  case startExit _ h | w1Exit _ h _ | w1CloseExit _ h _ | w2Exit _ h | giveUp _ _ h => exact nomatch ha.1.symm.trans h
  case cancelled hc _ => exact absurd (hi.exited_of_cancelReq hc) ha.2
  case lose hm => exact nomatch hlive ▸ hm
  case attempt => exact .inl (by simp [attempts])
  case factoryOk ht _ => exact .inr (.inl ⟨rfl, ht, by simp⟩)
  case startSpawn hl _ | lossSeen hl _ _ _ => exact .inr (.inr ⟨ha', hlive, rfl, by simp [rank, hl], fun _ => nofun⟩)
  case connected hl ht _ hcn => exact .inr (.inr ⟨ha', hlive, rfl, by simp [rank, hl, ht, hcn], id⟩)
  case retry hl ht _ hcn => exact .inr (.inr ⟨ha', hlive, rfl, by simp [rank, hl, ht, hcn], fun _ => nofun⟩)
  case sleep hc ht _ =>
    have hl := (hi.pending (.inl ht)).2.2 hc
    exact .inr (.inr ⟨ha', hlive, rfl, by simp [rank, hl, ht], fun _ => nofun⟩)
  case factoryFail ht hc =>
    have hl := (hi.pending (.inr (.inr ht))).2.2 hc
    exact .inr (.inr ⟨ha', hlive, by simp [attempts], by simp [rank, hl, ht], fun h => absurd ht h⟩)

theorem attempts_mono {s s' : S} {l : Label} (hs : next s l = some s') : attempts s ≤ attempts s' := by
  obtain ⟨es, he, _⟩ := (next_step hs).log
  simp [attempts, he, List.countP_append]

theorem lose_empties_live {s s' : S} (hi : Inv s) (hs : next s .lose = some s') :
    s'.live = [] ∧ s'.t = .finished := by
  cases next_step hs with
  | lose c hcn _ => exact ⟨hi.filter_live hcn, hi.conn_finished hcn⟩

theorem sleeping_path (s : S) (u : Nat) (ht : s.t = .sleeping u) (hc : s.closing = false)
    (hcr : s.cancelReq = false) :
    ∃ s', runLabels s [.tick (u - s.now), .tRun] = some s' ∧ attempts s' = attempts s + 1 := by
  have h2 := step_next (s := { s with now := s.now + (u - s.now) })
    (.attempt hcr (.inr ⟨u, ht, by show u ≤ s.now + (u - s.now); omega⟩) hc)
  exact ⟨_, by rw [runLabels_cons (step_next (.tick _)), runLabels_cons h2]; rfl, by simp [attempts]⟩

theorem rank_lt (s : S) : rank s < 5 := by
  unfold rank
  split <;> omega

/-- `P` is whatever the caller wants to know of the labels on the path -/
theorem path_to_attempt {md th sl : Nat} {P : Label → Prop} (hP : P .lRun ∧ P .tRun ∧ P .factoryFail ∧ ∀ d, P (.tick d))
    (n : Nat) : ∀ s : S, Reach md th sl s → active s → s.live = [] → rank s < n →
    ∃ ls s', runLabels s ls = some s' ∧ ls.length ≤ n ∧ (∀ l ∈ ls, P l) ∧ attempts s' = attempts s + 1 := by
  induction n with
  | zero => intro s _ _ _ h; exact absurd h (Nat.not_lt_zero _)
  | succ n ih =>
    intro s hr ha hlive hn
    have hi := reach_inv hr
    have hcr := hi.cancelReq_false ha.2
    -- one enabled step `l`, then the induction hypothesis
    have one : ∀ (l : Label) (s1 : S), P l → l ≠ .close → (∀ d, l ≠ .tick d) → l ≠ .factoryOk → next s l = some s1 →
        ∃ ls s', runLabels s ls = some s' ∧ ls.length ≤ n + 1 ∧ (∀ l ∈ ls, P l) ∧ attempts s' = attempts s + 1 := by
      intro l s1 hl hcl htk hok h1
      rcases progress_step hi ha hlive hcl htk (next_step h1) with h | ⟨h, _⟩ | ⟨h2, h4, h5, h6, _⟩
      · exact ⟨[l], s1, runLabels_cons h1 [], Nat.succ_le_succ (Nat.zero_le _), List.forall_mem_singleton.2 hl, h⟩
      · exact absurd h hok
      · obtain ⟨ls, s', hrun, hlen, hlabs, hatt⟩ := ih s1 (Reach.step s s1 l hr h1) h2 h4 (by omega)
        exact ⟨l :: ls, s', (runLabels_cons h1 ls).trans hrun, Nat.succ_le_succ hlen,
          List.forall_mem_cons.2 ⟨hl, hlabs⟩, by omega⟩
    rcases hi.not_stuck ha.2 with ⟨s1, h1⟩ | ⟨s1, h1⟩ | ⟨u, h1⟩ | h1 | ⟨_, c, _, h1⟩
    · exact one .lRun s1 hP.1 nofun nofun nofun h1
    · exact one .tRun s1 hP.2.1 nofun nofun nofun h1
    · obtain ⟨s', hrun, hatt⟩ := sleeping_path s u h1 ha.1 hcr
      have hl := (hi.pending (.inr (.inl ⟨u, h1⟩))).2.2 hcr
      have : rank s = 1 := by simp [rank, hl, h1]
      exact ⟨_, s', hrun, by show 2 ≤ n + 1; omega,
        List.forall_mem_cons.2 ⟨hP.2.2.2 _, List.forall_mem_singleton.2 hP.2.1⟩, hatt⟩
    · exact one .factoryFail _ hP.2.2.1 nofun nofun nofun (step_next (.factoryFail h1 hcr))
    · exact nomatch hlive ▸ h1

theorem run_stays_active {md th sl : Nat} (st : Nat → S) (lab : Nat → Label)
    (hstep : ∀ i, next (st i) (lab i) = some (st (i + 1)))
    (h0 : Reach md th sl (st 0)) (ha0 : active (st 0)) (noClose : ∀ i, lab i ≠ .close) (i : Nat) :
    Reach md th sl (st i) ∧ active (st i) := by
  induction i with
  | zero => exact ⟨h0, ha0⟩
  | succ i ih => exact ⟨Reach.step _ _ _ ih.1 (hstep i), active_step (next_step (hstep i)) (noClose i) ih.2⟩

/-- an infinite run of the manager in a fair environment that never calls close() -/
structure FairRun (md th sl : Nat) where
  st : Nat → S
  lab : Nat → Label
  step : ∀ i, next (st i) (lab i) = some (st (i + 1))
  reach0 : Reach md th sl (st 0)
  open0 : (st 0).closing = false
  alive0 : (st 0).lpc ≠ .exited
  noClose : ∀ i, lab i ≠ .close
  loopRuns : ∀ i, (next (st i) .lRun).isSome → ∃ j, i ≤ j ∧ lab j = .lRun
  taskRuns : ∀ i, (next (st i) .tRun).isSome → ∃ j, i ≤ j ∧ lab j = .tRun
  clock : ∀ i T, ∃ j, i ≤ j ∧ T ≤ (st j).now
  factoryEnds : ∀ i, (st i).t = .inFactory → ∃ j, i ≤ j ∧ (lab j = .factoryOk ∨ lab j = .factoryFail)

namespace FairRun
variable {md th sl : Nat} (r : FairRun md th sl)

theorem stays_active (i : Nat) : Reach md th sl (r.st i) ∧ active (r.st i) :=
  run_stays_active r.st r.lab r.step r.reach0 ⟨r.open0, r.alive0⟩ r.noClose i

theorem attempts_le {i j : Nat} (h : i ≤ j) : attempts (r.st i) ≤ attempts (r.st j) := by
  rw [← Nat.add_sub_cancel' h]
  induction j - i with
  | zero => exact Nat.le_refl _
  | succ k ih => exact Nat.le_trans ih (attempts_mono (r.step (i + k)))

theorem tick_eq {i d : Nat} (h : r.lab i = .tick d) : r.st (i + 1) = { r.st i with now := (r.st i).now + d } :=
  Option.some.inj ((h ▸ r.step i : next (r.st i) (.tick d) = _).symm.trans rfl)

theorem first_nontick (i : Nat) (hlive : (r.st i).live = []) :
    ∃ j n, i ≤ j ∧ r.st j = { r.st i with now := n } ∧ ¬ ∃ d, r.lab j = .tick d := by
  refine Classical.byContradiction fun hno => ?_
  -- otherwise only the clock moves from `i` on
  have frozen : ∀ j, i ≤ j → ∃ n, r.st j = { r.st i with now := n } := by
    intro j hj
    rw [← Nat.add_sub_cancel' hj]
    induction j - i with
    | zero => exact ⟨_, rfl⟩
    | succ k ih =>
      obtain ⟨n, hn⟩ := ih
      obtain ⟨d, hd⟩ : ∃ d, r.lab (i + k) = .tick d :=
        Classical.byContradiction fun h => hno ⟨i + k, n, Nat.le_add_right .., hn, h⟩
      exact ⟨n + d, by rw [← Nat.add_assoc, r.tick_eq hd, hn]⟩
  have never : ∀ j, i ≤ j → ∀ l, (∀ d, l ≠ .tick d) → r.lab j ≠ l := fun j hj l hl h =>
    have ⟨n, hn⟩ := frozen j hj
    hno ⟨j, n, hj, hn, fun ⟨d, hd⟩ => hl d (h.symm.trans hd)⟩
  -- but something else is enabled, or will be once the clock has reached the wake-up time
  obtain ⟨hr, _, hl⟩ := r.stays_active i
  have hcr := (reach_inv hr).cancelReq_false hl
  rcases (reach_inv hr).not_stuck hl with ⟨s', h1⟩ | ⟨s', h1⟩ | ⟨u, h1⟩ | h1 | ⟨_, c, _, h1⟩
  · obtain ⟨j, hj, hlab⟩ := r.loopRuns i (by rw [h1]; rfl)
    exact never j hj .lRun nofun hlab
  · obtain ⟨j, hj, hlab⟩ := r.taskRuns i (by rw [h1]; rfl)
    exact never j hj .tRun nofun hlab
  · obtain ⟨j1, hj1, hnow⟩ := r.clock i u
    obtain ⟨n, hn⟩ := frozen j1 hj1
    rw [hn] at hnow
    have hen : (next (r.st j1) .tRun).isSome :=
      hn ▸ step_next (afterSleep_step (s := { r.st i with now := n }) hcr (.inr ⟨u, h1, hnow⟩)) ▸ rfl
    obtain ⟨j, hj, hlab⟩ := r.taskRuns j1 hen
    exact never j (Nat.le_trans hj1 hj) .tRun nofun hlab
  · obtain ⟨j, hj, hlab⟩ := r.factoryEnds i h1
    rcases hlab with hlab | hlab
    · exact never j hj .factoryOk nofun hlab
    · exact never j hj .factoryFail nofun hlab
  · exact nomatch hlive ▸ h1

/-- from a point where no connection is live the next attempt comes, unless the factory (if the connect
    task is inside it at that point) returns a connection first -/
theorem progress_aux (n : Nat) : ∀ i, rank (r.st i) < n → (r.st i).live = [] →
    ∃ j, i ≤ j ∧ (attempts (r.st j) = attempts (r.st i) + 1 ∨
      ((r.st j).live ≠ [] ∧ (r.st i).t = .inFactory)) := by
  induction n with
  | zero => intro i h; exact absurd h (Nat.not_lt_zero _)
  | succ n ih =>
    intro i hn hlive
    -- the first step `j` other than a clock advance is the attempt, or the factory's success, or lowers the rank
    obtain ⟨j, m, hj, hm, hnt⟩ := r.first_nontick i hlive
    obtain ⟨hr, ha⟩ := r.stays_active j
    have key := progress_step (reach_inv hr) ha (by rw [hm]; exact hlive) (r.noClose j)
      (fun d h => hnt ⟨d, h⟩) (next_step (r.step j))
    rw [hm] at key
    rcases key with h1 | ⟨_, h0, h1⟩ | ⟨_, h1, h2, h3, h4⟩
    · exact ⟨j + 1, Nat.le_succ_of_le hj, .inl h1⟩
    · exact ⟨j + 1, Nat.le_succ_of_le hj, .inr ⟨h1, h0⟩⟩
    · obtain ⟨j', hj', hres⟩ := ih (j + 1) (Nat.lt_of_lt_of_le h3 (Nat.le_of_lt_succ hn)) h1
      exact ⟨j', by omega, hres.imp (·.trans (congrArg (· + 1) h2))
        fun ⟨h, ht⟩ => ⟨h, Decidable.by_contra fun hn => h4 hn ht⟩⟩

/-- **progress**: from any point of a fair run, a new connection attempt is eventually made unless a
    connection becomes live first -/
theorem progress (i : Nat) :
    ∃ j, i ≤ j ∧ (attempts (r.st j) = attempts (r.st i) + 1 ∨ (r.st j).live ≠ []) := by
  by_cases hlive : (r.st i).live = []
  · obtain ⟨j, hj, h⟩ := r.progress_aux _ i (Nat.lt_succ_self _) hlive
    exact ⟨j, hj, h.imp_right And.left⟩
  · exact ⟨i, Nat.le_refl _, Or.inr hlive⟩

theorem unbounded_attempts
    (connDies : ∀ i, (r.st i).live ≠ [] → ∃ j, i ≤ j ∧ r.lab j = .lose) (N : Nat) :
    ∃ j, N ≤ attempts (r.st j) := by
  induction N with
  | zero => exact ⟨0, Nat.zero_le _⟩
  | succ N ih =>
    obtain ⟨j, hj⟩ := ih
    obtain ⟨j2, hj2, h | h⟩ := r.progress j
    · exact ⟨j2, by omega⟩
    · -- the live connection dies; right after the loss the connect task is finished, not inside the factory
      obtain ⟨j3, hj3, hl⟩ := connDies j2 h
      have hs := r.step j3
      rw [hl] at hs
      obtain ⟨hdead, hfin⟩ := lose_empties_live (reach_inv (r.stays_active j3).1) hs
      obtain ⟨j4, hj4, ha | ⟨_, ht⟩⟩ := r.progress_aux _ (j3 + 1) (Nat.lt_succ_self _) hdead
      · have h1 : attempts (r.st j) ≤ attempts (r.st (j3 + 1)) := r.attempts_le (by omega)
        exact ⟨j4, by omega⟩
      · exact nomatch hfin.symm.trans ht

end FairRun

/-- the fairness assumptions are jointly satisfiable, on a run with infinitely many attempts:
    max_delay 0 (no back-off), the factory always raises; from the state after connect_loop's first
    step the cycle `tRun (attempt), factoryFail, lRun, tick 1` repeats for ever. -/
def cycLab (i : Nat) : Label :=
  match i % 4 with
  | 0 => .tRun
  | 1 => .factoryFail
  | 2 => .lRun
  | _ => .tick 1

theorem cycLab_add (q k : Nat) : cycLab (4 * q + k) = cycLab k := by
  unfold cycLab
  rw [Nat.mul_add_mod]

def cycSt : Nat → S
  | 0 => topLogic (S.init 0 5 5)
  | i + 1 => (next (cycSt i) (cycLab i)).getD (cycSt i)

def CycInv (i : Nat) (s : S) : Prop :=
  s.closing = false ∧ s.cancelReq = false ∧ s.conn = none ∧ s.live = [] ∧ s.backoff.maxDelay = 0 ∧
  s.breaker.sleepFlag = false ∧ s.lpc = .w1 ∧ s.now = i / 4 ∧
  (i % 4 = 0 → s.t = .created) ∧ (i % 4 = 1 → s.t = .inFactory) ∧ (i % 4 = 2 → s.t = .finished) ∧
  (i % 4 = 3 → s.t = .created)

theorem cyc_step (i : Nat) (s : S) (h : CycInv i s) :
    ∃ s', next s (cycLab i) = some s' ∧ CycInv (i + 1) s' := by
  have hm : i % 4 = 0 ∨ i % 4 = 1 ∨ i % 4 = 2 ∨ i % 4 = 3 := by omega
  obtain ⟨hcl, hcr, hcn, hlv, hmd, hfl, hl, hnow, h0, h1, h2, h3⟩ := h
  rw [cycLab]
  rcases hm with hm | hm | hm | hm <;> rw [hm]
  · have hg : getBackOffTime s.backoff s.breaker = 0 := by
      simp [getBackOffTime, Strategy.current, hmd, hfl]
    refine ⟨_, step_next (.attempt hcr (.inl ⟨h0 hm, hg⟩) hcl), hcl, hcr, hcn, hlv, hmd, hfl, hl,
      hnow.trans (by omega), ?_, fun _ => rfl, ?_, ?_⟩ <;> omega
  · refine ⟨_, step_next (.factoryFail (h1 hm) hcr), hcl, hcr, rfl, hlv, hmd, hfl, hl,
      hnow.trans (by omega), ?_, ?_, fun _ => rfl, ?_⟩ <;> omega
  · refine ⟨_, step_next (.retry hl (h2 hm) hcl hcn), hcl, rfl, hcn, hlv, hmd, hfl, rfl,
      hnow.trans (by omega), ?_, ?_, ?_, fun _ => rfl⟩ <;> omega
  · refine ⟨_, step_next (.tick 1), hcl, hcr, hcn, hlv, hmd, hfl, hl,
      (congrArg (· + 1) hnow).trans (by omega), fun _ => h3 hm, ?_, ?_, ?_⟩ <;> omega

theorem cyc_inv (i : Nat) : CycInv i (cycSt i) := by
  induction i with
  | zero => simp [CycInv, cycSt, topLogic, S.init, Strategy.new]
  | succ i ih =>
    obtain ⟨s', h1, h2⟩ := cyc_step i _ ih
    simp only [cycSt, h1, Option.getD_some]
    exact h2

theorem cyc_next (i : Nat) : next (cycSt i) (cycLab i) = some (cycSt (i + 1)) := by
  obtain ⟨s', h1, _⟩ := cyc_step i _ (cyc_inv i)
  simp only [cycSt, h1, Option.getD_some]

end Amshan.ConnMgr
