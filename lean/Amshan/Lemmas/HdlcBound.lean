import Amshan.Lemmas.HdlcRun
/-
  C19 (HDLC): a size invariant of the reader core that every `_read_next` call preserves.

  Every octet appended to `_raw_frame_data` either appends one octet to the frame, or (octet
  stuffing) arms `_unescape_next`; the armed escape is consumed by the very next octet.  Hence
  `raw.length ≤ 2 * frame.len + (1 if an escape is pending)`, and the frame is cut at
  `maxFrameLen` by the over-length check.
-/
namespace Amshan.Hdlc
open Amshan.Gen

@[simp] theorem Frame.empty_len : Frame.empty.len = 0 := rfl

/-- 1 when an escape is pending -/
def esc1 (b : Bool) : Nat := if b then 1 else 0

@[simp] theorem esc1_true : esc1 true = 1 := rfl
@[simp] theorem esc1_false : esc1 false = 0 := rfl
theorem esc1_le (b : Bool) : esc1 b ≤ 1 := by cases b <;> simp

/-- the size invariant, the frame being at most `n` octets long: `n = maxFrameLen` between two
    `_read_next` calls (`Bnd`), one more after `_append_to_frame`, before the over-length check -/
def BndBy (n : Nat) (c : Core) : Prop :=
  match c.frame with
  | some f => f.len ≤ n ∧ c.raw.length ≤ 2 * f.len + esc1 c.unescapeNext
  | none => c.raw.length ≤ 2 * maxFrameLen + 3

abbrev Bnd : Core → Prop := BndBy maxFrameLen

theorem Bnd_init : Bnd Core.init := Nat.zero_le _

theorem Bnd_startFrame (c : Core) : Bnd (startFrame c) := ⟨Nat.zero_le _, Nat.zero_le _⟩

theorem BndBy_some {n : Nat} {c : Core} {f : Frame} (h : BndBy n c) (hf : c.frame = some f) :
    f.len ≤ n ∧ c.raw.length ≤ 2 * f.len + esc1 c.unescapeNext := by
  simpa only [BndBy, hf] using h

theorem BndBy_none {n : Nat} {c : Core} (h : BndBy n c) (hf : c.frame = none) :
    c.raw.length ≤ 2 * maxFrameLen + 3 := by
  simpa only [BndBy, hf] using h

/-- the bound on the raw history inside a frame implies the one of hunt mode -/
theorem BndBy_gotoHunt {n : Nat} {c : Core} (hn : n ≤ maxFrameLen + 1) (h : BndBy n c) :
    Bnd (gotoHunt c) := by
  show c.raw.length ≤ 2 * maxFrameLen + 3
  cases hf : c.frame with
  | none => exact BndBy_none h hf
  | some f =>
    obtain ⟨h1, h2⟩ := BndBy_some h hf
    have := esc1_le c.unescapeNext
    omega

/-- an octet of raw data is paid for by an octet of the frame or by a pending escape -/
theorem unesc_count (s u : Bool) (x : Nat) :
    (unesc s u x).1.length ≤ 1 ∧
    1 + esc1 u ≤ 2 * (unesc s u x).1.length + esc1 (unesc s u x).2 := by
  cases hs : s with
  | false => rw [unesc_plain rfl]; exact ⟨Nat.le_refl 1, show 1 + esc1 u ≤ 2 + esc1 u by omega⟩
  | true =>
    cases u with
    | true => rw [unesc_pending rfl]; exact ⟨Nat.le_refl 1, Nat.le_refl 2⟩
    | false =>
      by_cases hx : x = escOctet
      · rw [hx, unesc_esc rfl]; exact ⟨Nat.zero_le 1, Nat.le_refl 1⟩
      · rw [unesc_other rfl hx]; exact ⟨Nat.le_refl 1, Nat.le_succ 1⟩

theorem BndBy_appendToFrame (cfg : Cfg) (c : Core) (f : Frame) (x : Nat)
    (h : Bnd c) (hf : c.frame = some f) : BndBy (maxFrameLen + 1) (appendToFrame cfg c f x) := by
  obtain ⟨h1, h2⟩ := BndBy_some h hf
  obtain ⟨h3, h4⟩ := unesc_count cfg.stuffing c.unescapeNext x
  rw [appendToFrame_eq]
  show _ ≤ _ ∧ _ ≤ _
  simp only [Frame.len, foldl_append_data, List.length_append, List.length_cons,
    List.length_nil] at h1 h2 ⊢
  omega

theorem Bnd_maxLenCheck (c1 : Core) (h : BndBy (maxFrameLen + 1) c1) : Bnd (maxLenCheck c1).1 := by
  rcases maxLenCheck_cases c1 with ⟨e, hle⟩ | ⟨e, -⟩ <;> rw [e]
  · cases hf : c1.frame with
    | none => simpa only [BndBy, hf] using h
    | some f => simpa only [BndBy, hf] using And.intro (hle f hf) (BndBy_some h hf).2
  · exact BndBy_gotoHunt (Nat.le_refl _) h

theorem Bnd_run (cfg : Cfg) (c : Core) (inp : List Nat) (h : Bnd c) : Bnd (run cfg c inp).1 :=
  (run_preserves (ok := fun _ => True) cfg Bnd_startFrame
    (fun _ => BndBy_gotoHunt (Nat.le_succ _))
    (fun _ _ _ _ h0 => ⟨h0 ▸ Nat.zero_le _, Nat.zero_le _⟩)
    (fun c f x h hf _ => Bnd_maxLenCheck _ (BndBy_appendToFrame cfg c f x h hf))
    c inp h (fun _ _ => trivial)).1

theorem Bnd_size {c : Core} (h : Bnd c) :
    c.raw.length + (match c.frame with | some f => f.len | none => 0) ≤ 3 * maxFrameLen + 1 := by
  cases hf : c.frame with
  | none =>
    have := BndBy_none h hf
    simp only [maxFrameLen_eq] at this ⊢
    omega
  | some f =>
    obtain ⟨h1, h2⟩ := BndBy_some h hf
    have := esc1_le c.unescapeNext
    simp only
    omega

theorem Reader.size_of_buf_empty (r : Reader) (hb : r.buf = Buf.empty) :
    r.size = r.core.raw.length + (match r.core.frame with | some f => f.len | none => 0) := by
  simp only [Reader.size, hb, Buf.size, Buf.empty, List.length_nil, Nat.zero_add]
  rfl

theorem Reachable.bnd {cfg : Cfg} {r : Reader} (h : Reachable cfg r) : Bnd r.core := by
  obtain ⟨cs, rfl⟩ := h
  rw [readAll_core cfg Reader.init cs Reader.init_buf]
  exact Bnd_run cfg Core.init cs.flatten Bnd_init

end Amshan.Hdlc
