import Amshan.Lemmas.GenCodeBase
import Amshan.GeneratedCodeHdlcReader
import Amshan.Model.Hdlc
/- The state machine core of `HdlcFrameReader` (han/hdlc.py: `_append_to_frame`, `_start_frame`, `_goto_hunt_mode`,
   `_handle_flag_sequence`, `_read_next`) against `appendToFrame`, `startFrame`, `gotoHunt`, `handleFlag`, `readNext` of
   Model/Hdlc.lean.

   A translated method takes the reader's configuration `Cfg` and the record `Core` of the attributes the methods
   assign, and answers the new `Core`, the flag `trimmed` (`_buffer.trim_buffer_to_flag_or_end()` was called: the call
   does not touch `Core`; the model trims in `loop` on `Act.hunt`) and Python's return value `frame_complete`.  Calls
   between the methods are calls of the generated definitions, rewritten here by their own lemmas.  The frame object
   is opaque: `Frame.append`, `Frame.len`, `Frame.hcs`, `Frame.isExpectedLength` stand for the calls on it. -/
set_option linter.unusedSimpArgs false   -- simp sets are deliberately wider than one spelling of the source needs
set_option linter.unusedVariables false
namespace Amshan.GenLemmas
open Amshan.GenCode Amshan.Gen Amshan.Hdlc

/-- What the Python did, as the model's `Act`: it returned `frame_complete = True` ↦ `complete`; it called
    `_goto_hunt_mode()` (the input buffer was trimmed to the next flag) ↦ `hunt`; neither ↦ `cont`.
    Both at once has no counterpart in the model. -/
def pyAct (trimmed frameComplete : Bool) : Option Act :=
  match trimmed, frameComplete with
  | false, false => some .cont
  | true, false => some .hunt
  | false, true => some .complete
  | true, true => none

/-- the flags (`trimmed`, `frame_complete`) of an `Act` -/
def actFlags : Act → Bool × Bool
  | .cont => (false, false)
  | .hunt => (true, false)
  | .complete => (false, true)

theorem pyAct_actFlags (a : Act) : pyAct (actFlags a).1 (actFlags a).2 = some a := by
  cases a <;> rfl

/-- the model's test of the last octet, in the source's words (`len(x) > 0`, `x[-1]` / `x[-1:][0]`) -/
theorem getLast?_beq_some (l : List Nat) (v : Nat) :
    (l.getLast? == some v) = (decide (0 < l.length) && l.getD (l.length - 1) 0 == v) := by
  cases l with
  | nil => rfl
  | cons a t => simp [List.getLast?_eq_getElem?, List.getD]

theorem hdlcStartFrame_eq (c : Core) : hdlcStartFrame c = startFrame c := by
  unfold hdlcStartFrame startFrame
  simp <;> gen_decide

theorem hdlcGotoHuntMode_eq (c : Core) : hdlcGotoHuntMode c = (gotoHunt c, true) := by
  unfold hdlcGotoHuntMode gotoHunt
  simp <;> gen_decide

/-- `_append_to_frame(x)`, where `assert self._frame is not None` holds -/
theorem hdlcAppendToFrame_eq (cfg : Cfg) (c : Core) (f : Frame) (x : Nat) (hf : c.frame = some f) :
    hdlcAppendToFrame cfg c x = appendToFrame cfg c f x := by
  unfold hdlcAppendToFrame appendToFrame
  rcases c with ⟨u, raw, fr⟩
  subst hf
  simp [escOctet, escXor] <;> gen_decide

theorem appendToFrame_frame_isSome (cfg : Cfg) (c : Core) (f : Frame) (x : Nat) :
    (appendToFrame cfg c f x).frame.isSome = true := by
  unfold appendToFrame
  split <;> (try split) <;> (try split) <;> rfl

theorem hdlcHandleFlagSequence_eq (cfg : Cfg) (c : Core) :
    hdlcHandleFlagSequence cfg c = ((handleFlag cfg c).1, actFlags (handleFlag cfg c).2) := by
  unfold hdlcHandleFlagSequence handleFlag
  rcases c with ⟨u, raw, fr⟩
  cases fr with
  | none => simp [hdlcStartFrame_eq, actFlags] <;> gen_decide
  | some f =>
    have happ : ∀ x, hdlcAppendToFrame cfg ⟨u, raw, some f⟩ x = appendToFrame cfg ⟨u, raw, some f⟩ f x :=
      fun x => hdlcAppendToFrame_eq _ _ f x rfl
    obtain ⟨f1, hf1⟩ := Option.isSome_iff_exists.mp (appendToFrame_frame_isSome cfg ⟨u, raw, some f⟩ f flagOctet)
    -- source and model branch on the same tests; `grind` walks them (`isSome` said as `≠ none`, which is what it knows)
    simp [happ, hdlcStartFrame_eq, hdlcGotoHuntMode_eq, getLast?_beq_some, hf1, actFlags, gotoHunt,
      Option.isSome_iff_ne_none] <;> gen_decide

/-- `x` is what `self._buffer.pop()` answers in `_read_next` -/
theorem hdlcReadNext_eq (cfg : Cfg) (c : Core) (x : Nat) :
    hdlcReadNext cfg c x = ((readNext cfg c x).1, actFlags (readNext cfg c x).2) := by
  unfold hdlcReadNext readNext
  rcases c with ⟨u, raw, fr⟩
  cases fr with
  | none => simp [hdlcHandleFlagSequence_eq, actFlags, flagOctet] <;> gen_decide
  | some f =>
    have happ : hdlcAppendToFrame cfg ⟨u, raw, some f⟩ x = appendToFrame cfg ⟨u, raw, some f⟩ f x :=
      hdlcAppendToFrame_eq _ _ f x rfl
    obtain ⟨f1, hf1⟩ := Option.isSome_iff_exists.mp (appendToFrame_frame_isSome cfg ⟨u, raw, some f⟩ f x)
    simp [happ, hdlcHandleFlagSequence_eq, hdlcGotoHuntMode_eq, hf1, actFlags, gotoHunt, flagOctet] <;> gen_decide

end Amshan.GenLemmas
