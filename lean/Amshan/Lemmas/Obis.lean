import Amshan.Model.Obis
import Amshan.Spec.ObisText
import Amshan.Lemmas.Basic
/-
  The OBIS matcher on text built from digit groups: which alternative matches and what it captures;
  and conversely what a successful `parse` says about its input.  `digits03` (greedy `\d{0,3}`) is read
  as "the first three of the leading digits" (`digits03_eq`); construction and inversion both start there.
-/
namespace Amshan.Obis
open Amshan.Py

/-- what `\d{0,3}` can capture -/
def IsGroup (t : List Nat) : Prop := t.length ≤ 3 ∧ ∀ x ∈ t, Py.isDigit x = true

theorem specIsDigit_eq : Amshan.ObisSpec.isDigit = Py.isDigit := rfl

theorem digits03_eq (s : List Nat) :
    digits03 s = ((s.takeWhile isDigit).take 3, s.drop ((s.takeWhile isDigit).take 3).length) := by
  fun_cases digits03 s <;> simp_all

theorem digits03_append (t rest : List Nat) (h : IsGroup t) (hr : ∀ x ∈ rest.head?, isDigit x = false) :
    digits03 (t ++ rest) = (t, rest) := by
  have hw : (t ++ rest).takeWhile isDigit = t := by
    rw [List.takeWhile_append_of_pos h.2]
    cases rest with
    | nil => simp
    | cons x r => simp [hr x (by simp)]
  rw [digits03_eq, hw, List.take_of_length_le h.1, List.drop_left]

theorem digits03_group (t : List Nat) (h : IsGroup t) : digits03 t = (t, []) := by
  simpa using digits03_append t [] h (by simp)

theorem digits03_group_cons (t : List Nat) (x : Nat) (r : List Nat) (h : IsGroup t)
    (hx : Py.isDigit x = false) : digits03 (t ++ x :: r) = (t, x :: r) :=
  digits03_append t (x :: r) h (by simpa using hx)

theorem digitsThen_group_sep (t : List Nat) (c : Nat) (r : List Nat) (h : IsGroup t)
    (hc : Py.isDigit c = false) : digitsThen (t ++ c :: r) c = some (t, r) := by
  simp [digitsThen, digits03_group_cons t c r h hc]

theorem digitsThen_group_other (t : List Nat) (x c : Nat) (r : List Nat) (h : IsGroup t)
    (hx : Py.isDigit x = false) (hne : x ≠ c) : digitsThen (t ++ x :: r) c = none := by
  simp [digitsThen, digits03_group_cons t x r h hx, hne]

theorem digitsThen_group_end (t : List Nat) (c : Nat) (h : IsGroup t) :
    digitsThen t c = none := by
  simp [digitsThen, digits03_group t h]


theorem digits03_inv (s : List Nat) : s = (digits03 s).1 ++ (digits03 s).2 ∧ IsGroup (digits03 s).1 := by
  rw [digits03_eq]
  exact ⟨(List.prefix_iff_eq_append.mp ((List.take_prefix 3 _).trans (List.takeWhile_prefix _))).symm,
    List.length_take_le _ _, fun x hx => List.all_eq_true.mp List.all_takeWhile x (List.mem_of_mem_take hx)⟩

theorem digitsThen_inv {s d r : List Nat} {c : Nat} (h : digitsThen s c = some (d, r)) :
    s = d ++ c :: r ∧ IsGroup d := by
  have hd := digits03_inv s
  unfold digitsThen at h
  split at h
  · rename_i d' x r' e
    rw [e] at hd
    split at h
    · rename_i hx
      simp at hx h
      obtain ⟨rfl, rfl⟩ := h
      exact hx ▸ hd
    · simp at h
  · simp at h

open Amshan.ObisSpec (dec reduced standard hasDigitDotDigit optLe)

theorem dec_group (n : Nat) (h : n < 1000) : IsGroup (dec n) := by
  unfold dec IsGroup
  split
  · simp [Py.isDigit]; omega
  · split
    · simp [Py.isDigit]; omega
    · simp [Py.isDigit]; omega

theorem dec_ne_nil (n : Nat) : dec n ≠ [] := by
  unfold dec; split
  · simp
  · split <;> simp

theorem intOfDigits_dec (n : Nat) (h : n < 1000) : intOfDigits (dec n) = .ok n := by
  unfold dec
  split
  · simp [intOfDigits]
  · split
    · simp [intOfDigits]; omega
    · simp [intOfDigits]; omega

theorem optInt_dec (n : Nat) (h : n < 1000) : optInt (some (dec n)) = .ok (some n) := by
  have := dec_ne_nil n
  simp [optInt, intOfDigits_dec n h, Except.map, this]

theorem truthy_some {x : Option Nat} (h : truthy x = true) : ∃ v, x = some v := by
  cases x with
  | none => cases h
  | some v => exact ⟨v, rfl⟩

theorem showNat_eq_dec (n : Nat) (h : n < 1000) : showNat n = dec n := by
  unfold showNat dec
  split
  · rfl
  · split
    · rfl
    · simp


/-- optional prefix `t c` and optional suffix `c t` of the reduced form -/
def optPre (x : Option (List Nat)) (c : Nat) : List Nat := match x with | some t => t ++ [c] | none => []
def optSuf (c : Nat) (x : Option (List Nat)) : List Nat := match x with | some t => [c] ++ t | none => []

/-- reduced form over arbitrary group texts -/
def redText (a b : Option (List Nat)) (c d : List Nat) (e f : Option (List Nat)) : List Nat :=
  optPre a 45 ++ optPre b 58 ++ c ++ [46] ++ d ++ optSuf 46 e ++ optSuf 42 f

/-- six-part form over arbitrary group texts -/
def stdText (a b c d e f : List Nat) : List Nat :=
  a ++ [46] ++ b ++ [46] ++ c ++ [46] ++ d ++ [46] ++ e ++ [46] ++ f

def OptGroup (x : Option (List Nat)) : Prop := match x with | some t => IsGroup t | none => True

@[simp] theorem isDigit_46 : Py.isDigit 46 = false := by decide
@[simp] theorem isDigit_42 : Py.isDigit 42 = false := by decide

theorem group_no_dot {t : List Nat} (h : IsGroup t) : List.count 46 t = 0 := by
  rw [List.count_eq_zero]
  intro hm
  have := h.2 46 hm
  simp at this

theorem matchStandard_inv {s : List Nat} {m : Match} (h : matchStandard s = some m) :
    ∃ a b e r, s = a ++ 46 :: (b ++ 46 :: (m.c ++ 46 :: (m.d ++ 46 :: (e ++ 46 :: r)))) ∧
      IsGroup m.c ∧ IsGroup m.d := by
  simp only [matchStandard, Option.bind_eq_bind, Option.bind_eq_some_iff, Prod.exists,
    Option.pure_def, Option.some.injEq] at h
  obtain ⟨a, s1, h1, b, s2, h2, c, s3, h3, d, s4, h4, e, s5, h5, rfl⟩ := h
  obtain ⟨rfl, _⟩ := digitsThen_inv h5
  obtain ⟨rfl, hd⟩ := digitsThen_inv h4
  obtain ⟨rfl, hc⟩ := digitsThen_inv h3
  obtain ⟨rfl, _⟩ := digitsThen_inv h2
  obtain ⟨rfl, _⟩ := digitsThen_inv h1
  exact ⟨a, b, e, s5, rfl, hc, hd⟩

theorem matchStandard_count {s : List Nat} {m : Match} (h : matchStandard s = some m) :
    5 ≤ List.count 46 s := by
  obtain ⟨a, b, e, r, rfl, _⟩ := matchStandard_inv h
  simp only [List.count_append, List.count_cons_self]
  omega

theorem optPre_no_dot {x : Option (List Nat)} (hx : OptGroup x) {c : Nat} (hc : c ≠ 46) :
    List.count 46 (optPre x c) = 0 := by
  cases x with
  | none => rfl
  | some t => simp [optPre, group_no_dot hx, hc]

theorem optSuf_one_dot {x : Option (List Nat)} (hx : OptGroup x) (c : Nat) :
    List.count 46 (optSuf c x) ≤ 1 := by
  cases x with
  | none => simp [optSuf]
  | some t =>
    simp only [optSuf, List.count_append, group_no_dot hx, List.count_singleton]
    split <;> omega

/-- optional prefix `\d{0,3}c` -/
def stripPre (s : List Nat) (c : Nat) : Option (List Nat) × List Nat :=
  match digitsThen s c with
  | some (a, r) => (some a, r)
  | none => (none, s)

/-- the mandatory part of REDUCED -/
def matchCore (a b : Option (List Nat)) (s : List Nat) : Option Match :=
  match digitsThen s 46 with
  | none => none
  | some (c, s) =>
    let (d, s) := digits03 s
    let (e, s) := match s with
      | 46 :: r => let (e, r') := digits03 r; (some e, r')
      | _ => (none, s)
    let f := match s with
      | 42 :: r => some (digits03 r).1
      | _ => none
    some { reduced := true, a := a, b := b, c := c, d := d, e := e, f := f }

theorem matchReduced_eq (s : List Nat) :
    matchReduced s = matchCore (stripPre s 45).1 (stripPre (stripPre s 45).2 58).1
      (stripPre (stripPre s 45).2 58).2 := rfl

theorem stripPre_optPre {x : Option (List Nat)} (hx : OptGroup x) {c : Nat} (hc : Py.isDigit c = false)
    {s : List Nat} (hs : digitsThen s c = none) : stripPre (optPre x c ++ s) c = (x, s) := by
  cases x with
  | none => simp only [optPre, List.nil_append, stripPre, hs]
  | some t =>
    simp only [optPre, List.append_assoc, List.cons_append, List.nil_append, stripPre,
      digitsThen_group_sep t c s hx hc]

theorem matchCore_text (a b : Option (List Nat)) (c d : List Nat) (e f : Option (List Nat))
    (hc : IsGroup c) (hd : IsGroup d) (he : OptGroup e) (hf : OptGroup f) :
    matchCore a b (c ++ 46 :: (d ++ (optSuf 46 e ++ optSuf 42 f))) =
      some { reduced := true, a := a, b := b, c := c, d := d, e := e, f := f } := by
  unfold matchCore
  rw [digitsThen_group_sep c 46 _ hc rfl]
  cases e <;> cases f <;> simp only [OptGroup] at he hf <;>
    simp [optSuf, digits03_group_cons, digits03_group, *]

section
variable {a b : Option (List Nat)} {c d : List Nat} {e f : Option (List Nat)}
  (ha : OptGroup a) (hb : OptGroup b) (hc : IsGroup c) (hd : IsGroup d) (he : OptGroup e) (hf : OptGroup f)
include ha hb hc hd he hf

/-- a reduced text has its dots after C and before E, and perhaps none else: too few for STANDARD -/
theorem matchStandard_redText : matchStandard (redText a b c d e f) = none := by
  cases h : matchStandard (redText a b c d e f) with
  | none => rfl
  | some m =>
    have := matchStandard_count h
    have := optSuf_one_dot he 46
    have := optSuf_one_dot hf 42
    have := optPre_no_dot ha (c := 45) (by decide)
    have := optPre_no_dot hb (c := 58) (by decide)
    simp only [redText, List.count_append, group_no_dot hc, group_no_dot hd, List.count_singleton,
      beq_self_eq_true, if_true] at *
    omega

theorem matchReduced_redText :
    matchReduced (redText a b c d e f) =
      some { reduced := true, a := a, b := b, c := c, d := d, e := e, f := f } := by
  -- neither `\d{0,3}:` nor `\d{0,3}-` matches at group C, nor the latter at a group B that is there
  have hC (y : Nat) (hy : 46 ≠ y) := digitsThen_group_other c 46 y (d ++ (optSuf 46 e ++ optSuf 42 f)) hc rfl hy
  have hB : digitsThen (optPre b 58 ++ (c ++ 46 :: (d ++ (optSuf 46 e ++ optSuf 42 f)))) 45 = none := by
    cases b with
    | none => exact hC 45 (by decide)
    | some t => simpa [optPre] using digitsThen_group_other t 58 45 _ hb rfl (by decide)
  simp only [redText, List.append_assoc, List.cons_append, List.nil_append]
  rw [matchReduced_eq, stripPre_optPre ha rfl hB, stripPre_optPre hb rfl (hC 58 (by decide))]
  exact matchCore_text a b c d e f hc hd he hf

theorem reMatch_redText :
    reMatch (redText a b c d e f) =
      some { reduced := true, a := a, b := b, c := c, d := d, e := e, f := f } := by
  rw [reMatch, matchStandard_redText ha hb hc hd he hf, matchReduced_redText ha hb hc hd he hf]

end

theorem matchStandard_stdText {a b c d e f : List Nat}
    (ha : IsGroup a) (hb : IsGroup b) (hc : IsGroup c) (hd : IsGroup d) (he : IsGroup e)
    (hf : IsGroup f) :
    matchStandard (stdText a b c d e f) =
      some { reduced := false, a := some a, b := some b, c := c, d := d, e := some e,
             f := some f } := by
  simp [stdText, matchStandard, digitsThen_group_sep, digits03_group, *]


theorem reduced_eq_redText (a b : Option Nat) (c d : Nat) (e f : Option Nat) :
    reduced a b c d e f =
      redText (a.map dec) (b.map dec) (dec c) (dec d) (e.map dec) (f.map dec) := by
  cases a <;> cases b <;> cases e <;> cases f <;> rfl

theorem standard_eq_stdText (a b c d e f : Nat) :
    standard a b c d e f = stdText (dec a) (dec b) (dec c) (dec d) (dec e) (dec f) := rfl

theorem optGroup_map_dec (x : Option Nat) (h : optLe x 255) : OptGroup (x.map dec) := by
  cases x with
  | none => trivial
  | some v =>
    simp only [optLe] at h
    exact dec_group v (by omega)

theorem optInt_map_dec (x : Option Nat) (h : optLe x 255) : optInt (x.map dec) = .ok x := by
  cases x with
  | none => rfl
  | some v =>
    simp only [optLe] at h
    exact optInt_dec v (by omega)

theorem parse_standard (a b c d e f : Nat) (ha : a ≤ 255) (hb : b ≤ 255) (hc : c ≤ 255)
    (hd : d ≤ 255) (he : e ≤ 255) (hf : f ≤ 255) :
    parse (standard a b c d e f) = .ok (some a, some b, c, d, some e, some f) := by
  rw [standard_eq_stdText]
  unfold parse reMatch
  rw [matchStandard_stdText (dec_group a (by omega)) (dec_group b (by omega))
    (dec_group c (by omega)) (dec_group d (by omega)) (dec_group e (by omega))
    (dec_group f (by omega))]
  simp [optInt_dec f (by omega), intOfDigits_dec a (by omega), intOfDigits_dec b (by omega),
    intOfDigits_dec c (by omega), intOfDigits_dec d (by omega), intOfDigits_dec e (by omega),
    bind, Except.bind, pure, Except.pure]

abbrev RaisesVE {α : Type} (x : Except PyExc α) (Q : α → Prop) : Prop := Outcome (· = .valueError) x Q

theorem raisesVE_intOfDigits (t : List Nat) : RaisesVE (intOfDigits t) fun _ => t ≠ [] := by
  unfold intOfDigits
  split
  · rfl
  · rename_i h
    exact fun e => h (e ▸ rfl)

theorem raisesVE_optInt (g : Option (List Nat)) : RaisesVE (optInt g) fun _ => True := by
  unfold optInt
  split
  · trivial
  · split
    · trivial
    · cases h : intOfDigits _ with
      | error e => exact (raisesVE_intOfDigits _).error h
      | ok v => trivial

/-- both alternatives convert groups C and D with `int`, which refuses the empty text -/
theorem raisesVE_parse (s : List Nat) :
    RaisesVE (parse s) fun _ => ∃ m, reMatch s = some m ∧ m.c ≠ [] ∧ m.d ≠ [] := by
  unfold parse
  split
  · rfl
  · rename_i m hm
    split
    · exact (raisesVE_optInt _).bind fun _ _ => (raisesVE_optInt _).bind fun _ _ =>
        (raisesVE_intOfDigits _).bind fun _ hc => (raisesVE_intOfDigits _).bind fun _ hd =>
        (raisesVE_optInt _).bind fun _ _ => (raisesVE_optInt _).bind fun _ _ => ⟨m, hm, hc, hd⟩
    · exact (raisesVE_intOfDigits _).bind fun _ _ => (raisesVE_intOfDigits _).bind fun _ _ =>
        (raisesVE_intOfDigits _).bind fun _ hc => (raisesVE_intOfDigits _).bind fun _ hd =>
        (raisesVE_intOfDigits _).bind fun _ _ => (raisesVE_optInt _).bind fun _ _ => ⟨m, hm, hc, hd⟩

theorem hasDDD_cons (p : Nat) (l : List Nat) (h : hasDigitDotDigit l = true) :
    hasDigitDotDigit (p :: l) = true := by
  match l, h with   -- a shorter `l` makes `h` false
  | _ :: _ :: _, h => simp [hasDigitDotDigit, h]

theorem hasDDD_mid (pre post : List Nat) (x y : Nat) (hx : Py.isDigit x = true)
    (hy : Py.isDigit y = true) : hasDigitDotDigit (pre ++ x :: 46 :: y :: post) = true := by
  induction pre with
  | nil => simp [hasDigitDotDigit, specIsDigit_eq, hx, hy]
  | cons p pre ih => exact hasDDD_cons p _ ih

theorem hasDDD_groups (pre c d post : List Nat) (hc : IsGroup c) (hd : IsGroup d)
    (hcn : c ≠ []) (hdn : d ≠ []) :
    hasDigitDotDigit (pre ++ c ++ 46 :: d ++ post) = true := by
  obtain ⟨y, d', rfl⟩ := List.exists_cons_of_ne_nil hdn
  have := hasDDD_mid (pre ++ c.dropLast) (d' ++ post) _ y (hc.2 _ (List.getLast_mem hcn)) (hd.2 y (by simp))
  rw [← List.dropLast_concat_getLast hcn]
  simpa using this

theorem stripPre_suffix (s : List Nat) (c : Nat) : ∃ pre, s = pre ++ (stripPre s c).2 := by
  unfold stripPre
  split
  · rename_i a r h
    obtain ⟨hs, _⟩ := digitsThen_inv h
    exact ⟨a ++ [c], by simp [hs]⟩
  · exact ⟨[], rfl⟩

theorem matchCore_inv {a b : Option (List Nat)} {s : List Nat} {m : Match}
    (h : matchCore a b s = some m) :
    ∃ post, s = m.c ++ 46 :: m.d ++ post ∧ IsGroup m.c ∧ IsGroup m.d := by
  unfold matchCore at h
  split at h
  · cases h
  · rename_i c s' hc
    obtain ⟨rfl, hgc⟩ := digitsThen_inv hc
    obtain ⟨hd, hgd⟩ := digits03_inv s'
    simp only [Option.some.injEq] at h
    subst h
    exact ⟨(digits03 s').2, by simp only [List.append_assoc, List.cons_append, ← hd], hgc, hgd⟩

theorem reMatch_inv {s : List Nat} {m : Match} (h : reMatch s = some m) :
    ∃ pre post, s = pre ++ m.c ++ 46 :: m.d ++ post ∧ IsGroup m.c ∧ IsGroup m.d := by
  unfold reMatch at h
  split at h
  · rename_i hst
    cases h
    obtain ⟨a, b, e, r, rfl, hc, hd⟩ := matchStandard_inv hst
    exact ⟨a ++ 46 :: (b ++ [46]), 46 :: (e ++ 46 :: r), by simp, hc, hd⟩
  · rw [matchReduced_eq] at h
    obtain ⟨post, hs, hc, hd⟩ := matchCore_inv h
    obtain ⟨p1, h1⟩ := stripPre_suffix s 45
    obtain ⟨p2, h2⟩ := stripPre_suffix (stripPre s 45).2 58
    refine ⟨p1 ++ p2, post, ?_, hc, hd⟩
    rw [h1, h2, hs]
    simp

theorem parse_ok_hasDDD {s : List Nat} {g : Groups} (h : parse s = .ok g) :
    hasDigitDotDigit s = true := by
  obtain ⟨m, hm, hcn, hdn⟩ := (raisesVE_parse s).ok h
  obtain ⟨pre, post, rfl, hc, hd⟩ := reMatch_inv hm
  exact hasDDD_groups pre m.c m.d post hc hd hcn hdn

end Amshan.Obis
