import Amshan.Lemmas.P1ReadoutChk
/-
  The identification-line matcher `identMatch`: the escape sequences it skips, and the texts on which it
  succeeds (`identMatch_of_parts`; what a successful match means is `C04.ident_wellformed`).
-/
namespace Amshan.P1L
open Amshan.Gen Amshan.P1 Amshan.P1Spec Amshan.Py

/-- the escape-sequence encoding: every word character `w` is sent as backslash `w` -/
abbrev escFlat (escs : List Nat) : List Nat := escs.flatMap (fun w => [92, w])

theorem dropEscPairs_split (s : List Nat) :
    ∃ escs, s = escFlat escs ++ dropEscPairs s ∧ escs.all Py.isWord = true := by
  induction s using dropEscPairs.induct with
  | case1 w rest hw ih =>
    obtain ⟨escs, h1, h2⟩ := ih
    refine ⟨w :: escs, ?_, ?_⟩
    · rw [dropEscPairs]
      simp only [hw, if_true]
      simp only [List.flatMap_cons, List.cons_append, List.nil_append, List.cons.injEq, true_and]
      exact h1
    · simp [hw, h2]
  | case2 w rest hw =>
    refine ⟨[], ?_, rfl⟩
    rw [dropEscPairs]
    simp [hw]
  | case3 s hs =>
    refine ⟨[], ?_, rfl⟩
    rw [dropEscPairs]
    · simp
    · exact hs

theorem dropEscPairs_id (s : List Nat) (h : ∀ w rest, s = 92 :: w :: rest → Py.isWord w = false) :
    dropEscPairs s = s := by
  unfold dropEscPairs
  split
  · rename_i w rest
    rw [h w rest rfl]
    rfl
  · rfl

theorem dropEscPairs_escFlat (escs s : List Nat) (h : escs.all Py.isWord = true) :
    dropEscPairs (escFlat escs ++ s) = dropEscPairs s := by
  induction escs with
  | nil => rfl
  | cons w t ih =>
    simp only [List.all_cons, Bool.and_eq_true] at h
    simp only [List.flatMap_cons, List.cons_append, List.nil_append]
    rw [dropEscPairs, if_pos h.1]
    exact ih h.2

/-- the converse of `C04.ident_wellformed`; the identification (with what follows it) must not begin
    with what would be read as one more escape sequence -/
theorem identMatch_of_parts (a b c d : Nat) (escs ident tail : List Nat)
    (ha : Py.isUpper a = true) (hb : Py.isUpper b = true) (hc : Py.isAlpha c = true)
    (hd : Py.isDigit d = true) (he : escs.all Py.isWord = true)
    (hi : ∀ w rest, ident ++ tail = 92 :: w :: rest → Py.isWord w = false)
    (hp : ident.all Py.isPrintable = true) (hl : ident.length ≤ 16)
    (ht : tail = [] ∨ tail = [10] ∨ tail = [13, 10] ∨ tail = [13, 10, 10]) :
    identMatch (47 :: a :: b :: c :: d :: (escFlat escs ++ (ident ++ tail))) =
      some { manid := [a, b, c], ident := if ident.isEmpty then none else some ident } := by
  have hpr := List.all_eq_true.mp hp
  have htk : tail.takeWhile Py.isPrintable = [] ∧ tail.dropWhile Py.isPrintable = tail := by
    rcases ht with rfl | rfl | rfl | rfl <;> exact ⟨rfl, rfl⟩
  rw [identMatch]
  simp only [ha, hb, hc, hd, Bool.and_self, if_true, dropEscPairs_escFlat escs _ he,
    dropEscPairs_id _ hi, List.takeWhile_append_of_pos hpr, List.dropWhile_append_of_pos hpr, htk.1,
    htk.2, List.append_nil]
  rcases ht with rfl | rfl | rfl | rfl <;> simp [hl]

end Amshan.P1L
