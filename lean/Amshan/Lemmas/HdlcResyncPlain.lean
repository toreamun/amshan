import Amshan.Lemmas.HdlcCleanResync
/-
  Resynchronisation of the HDLC reader without octet stuffing (C16), for `run` started in any reader core
  satisfying the invariant, then given arbitrary octets, then a clean stream of flag-free frames.  The
  stream is read block by block (`block`: remaining fill flags, frame, closing flag): first by the garbage
  frame in progress until it dies (`block_garbage`; it cannot outgrow `maxFrameLen`), then from a
  synchronised reader, where `survivors` says which frames come out — with abort detection a frame
  whose last octet is the escape octet is taken for an abort sequence.
-/
namespace Amshan.HdlcClean
open Amshan.Gen Amshan.Hdlc Amshan.HdlcSpec

/-- the reader takes the end of `d` for an abort sequence: abort detection is on and the last octet
    of the frame (the high octet of its FCS) is the escape octet 0x7D -/
def abortsAtEnd (cfg : Cfg) (d : FrameDesc) : Prop := cfg.abort = true ∧ d.encode.getLast? = some esc

instance (cfg : Cfg) (d : FrameDesc) : Decidable (abortsAtEnd cfg d) := by
  unfold abortsAtEnd; infer_instance

/-- Frames (with their fill `n` = number of flags in front) delivered from a clean flag-free stream
    read without octet stuffing, from the point where the reader is synchronised.
    `hunting = true`: the flag just read put the reader in hunt mode.
    * hunting and only that one flag in front of the frame: the frame is skipped;
    * otherwise a frame that ends like an abort sequence is dropped and the reader hunts;
    * otherwise the frame is delivered.
    Without abort detection, or when no frame ends in 0x7D, this is all frames (`survivors_all`). -/
def survivors (cfg : Cfg) : Bool → List (FrameDesc × Nat) → List FrameDesc
  | _, [] => []
  | hunting, (d, n) :: fs =>
    if hunting = true ∧ n ≤ 1 then survivors cfg false fs
    else if abortsAtEnd cfg d then survivors cfg true fs
    else d :: survivors cfg false fs

theorem survivors_all (cfg : Cfg) (fs : List (FrameDesc × Nat))
    (h : ∀ p ∈ fs, ¬ abortsAtEnd cfg p.1) : survivors cfg false fs = fs.map (·.1) := by
  induction fs with
  | nil => rfl
  | cons a fs ih =>
    obtain ⟨d, n⟩ := a
    have hd : ¬ abortsAtEnd cfg d := h (d, n) (by simp)
    simp only [survivors, Bool.false_eq_true, false_and, if_false, hd, List.map_cons]
    rw [ih (fun p hp => h p (by simp [hp]))]

theorem survivors_drop (cfg : Cfg) (b : Bool) (fs : List (FrameDesc × Nat)) :
    ∃ j, j ≤ b.toNat ∧ survivors cfg b fs = survivors cfg false (fs.drop j) := by
  match b, fs with
  | false, _ => exact ⟨0, Nat.le_refl 0, rfl⟩
  | true, [] => exact ⟨0, Nat.zero_le 1, rfl⟩
  | true, (d, n) :: fs =>
    by_cases hn : n ≤ 1
    · exact ⟨1, Nat.le_refl 1, by simp [survivors, hn]⟩
    · exact ⟨0, Nat.zero_le 1, by simp [survivors, hn]⟩

theorem survivors_cons_ok (cfg : Cfg) (d : FrameDesc) (n : Nat) (fs : List (FrameDesc × Nat))
    (h : ¬ abortsAtEnd cfg d) : survivors cfg false ((d, n) :: fs) = d :: survivors cfg false fs := by
  simp [survivors, h]

theorem survivors_cons_cons_ok (cfg : Cfg) (b : Bool) (d0 d : FrameDesc) (n0 n : Nat)
    (fs : List (FrameDesc × Nat)) (h0 : ¬ abortsAtEnd cfg d0) (h : ¬ abortsAtEnd cfg d) :
    ∃ l, survivors cfg b ((d0, n0) :: (d, n) :: fs) = l ++ d :: survivors cfg false fs := by
  by_cases hb : b = true ∧ n0 ≤ 1
  · exact ⟨[], by simp [survivors, hb, h]⟩
  · exact ⟨[d0], by simp [survivors, hb, h0, h]⟩

theorem survivors_mem_cons (cfg : Cfg) (b : Bool) (a : FrameDesc × Nat) (fs : List (FrameDesc × Nat))
    {x : FrameDesc} (h : ∀ b', x ∈ survivors cfg b' fs) : x ∈ survivors cfg b (a :: fs) := by
  obtain ⟨d, n⟩ := a
  rw [survivors]
  split
  · exact h false
  · split
    · exact h true
    · exact List.mem_cons_of_mem _ (h false)

theorem survivors_mem (cfg : Cfg) (b : Bool) (fs : List (FrameDesc × Nat)) (i : Nat)
    (hi : i + 1 < fs.length) (h0 : ¬ abortsAtEnd cfg fs[i].1) (h1 : ¬ abortsAtEnd cfg fs[i + 1].1) :
    fs[i + 1].1 ∈ survivors cfg b fs := by
  induction fs generalizing b i with
  | nil => simp at hi
  | cons a fs ih =>
    cases i with
    | zero =>
      match fs, hi, h0, h1 with
      | a' :: fs', _, h0, h1 =>
        obtain ⟨l, e⟩ := survivors_cons_cons_ok cfg b a.1 a'.1 a.2 a'.2 fs' h0 h1
        show a'.1 ∈ survivors cfg b ((a.1, a.2) :: (a'.1, a'.2) :: fs')
        rw [e]
        simp
    | succ j =>
      have hj : j + 1 < fs.length := by simpa using hi
      exact survivors_mem_cons cfg b a fs fun b' => ih b' j hj h0 h1

def Plain (d : FrameDesc) : Prop := d.WF ∧ flag ∉ d.encode

/-- flag-free frames that do not end like an abort sequence: these are in the domain of C02 -/
def PlainOK (cfg : Cfg) (d : FrameDesc) : Prop :=
  d.WF ∧ flag ∉ d.encode ∧ (cfg.abort = true → d.encode.getLast? ≠ some esc)

theorem PlainOK.inDomain {cfg : Cfg} {d : FrameDesc} (h : PlainOK cfg d) :
    InDomain cfg.stuffing cfg.abort d := by
  right
  exact ⟨fun hm => h.2.1 (List.mem_of_mem_take hm), fun ha => esc_before_of_noflag _ h.2.1 (h.2.2 ha)⟩

/-- wire length of a frame with its fill -/
def wireLen (p : FrameDesc × Nat) : Nat := p.2 + p.1.encode.length

theorem sum_take_le_one (fs : List (FrameDesc × Nat)) (L : Nat) (hL : ∀ p ∈ fs, wireLen p ≤ L) (j : Nat)
    (hj : j ≤ 1) : ((fs.take j).map wireLen).sum ≤ L := by
  match j, fs, hj with
  | 0, _, _ => simp
  | 1, [], _ => simp
  | 1, a :: t, _ => simpa using hL a (by simp)

/-- the block of a frame in the shifted stream -/
def block (m : Nat) (d : FrameDesc) : List Nat :=
  List.replicate m flagOctet ++ (d.encode ++ [flagOctet])

theorem block_length (m : Nat) (d : FrameDesc) : (block m d).length = m + d.encode.length + 1 := by
  simp [block]; omega

theorem block_succ (m : Nat) (d : FrameDesc) : block (m + 1) d = flagOctet :: block m d := by
  simp [block, List.replicate_succ]

theorem shifted_cons_block (d : FrameDesc) (n : Nat) (fs : List (FrameDesc × Nat)) (k : Nat) :
    shifted false ((d, n) :: fs) k = block (n - 1) d ++ shifted false fs k := by
  rw [shifted_cons]; rfl

theorem block_plain (cfg : Cfg) (hst : cfg.stuffing = false) (d : FrameDesc) (h : Plain d) (m : Nat) :
    Synced (run cfg fresh (block m d)).1 (decide (abortsAtEnd cfg d)) ∧
    (run cfg fresh (block m d)).2 = if abortsAtEnd cfg d then [] else [expectedFrame d] := by
  rw [block, run_append, run_fresh_flags, run_append,
    body_plain cfg hst d h.1 (fun hm => h.2 (List.mem_of_mem_take hm))
      (fun _ q1 q2 e => absurd (e ▸ List.mem_append_right q1 List.mem_cons_self) h.2),
    run_cons, run_nil, step_frame_end cfg d h.1]
  by_cases ha : abortsAtEnd cfg d
  · rw [(abortSeq_encode cfg d).mpr ha, if_pos ha, decide_eq_true ha]
    exact ⟨.hunt rfl, rfl⟩
  · rw [Bool.eq_false_iff.mpr (mt (abortSeq_encode cfg d).mp ha), if_neg ha, decide_eq_false ha]
    exact ⟨.fresh, rfl⟩

theorem block_from_hunt_skip (cfg : Cfg) (d : FrameDesc) (h : Plain d) (c : Core) (hc : c.frame = none) :
    run cfg c (block 0 d) = (fresh, []) := by
  simp only [block, List.replicate_zero, List.nil_append]
  rw [run_append, run_hunt_noflag cfg c _ hc h.2, run_cons,
    step_hunt_flag cfg c hc]
  rfl

theorem run_shifted_synced (cfg : Cfg) (hst : cfg.stuffing = false) {c : Core} {b : Bool}
    (hc : Synced c b) (fs : List (FrameDesc × Nat)) (k : Nat) (hfs : ∀ q ∈ fs, Plain q.1) :
    (run cfg c (shifted false fs k)).2 = (survivors cfg b fs).map expectedFrame := by
  induction fs generalizing c b with
  | nil =>
    rw [shifted_nil, run_synced_flags cfg hc]; rfl
  | cons a fs ih =>
    obtain ⟨d, n⟩ := a
    have hd : Plain d := hfs (d, n) (by simp)
    have hrest : ∀ q ∈ fs, Plain q.1 := fun q hq => hfs q (by simp [hq])
    rw [shifted_cons_block, run_append]
    have fromFresh : ∀ m, (run cfg fresh (block m d)).2 ++
          (run cfg (run cfg fresh (block m d)).1 (shifted false fs k)).2 =
        (if abortsAtEnd cfg d then survivors cfg true fs else d :: survivors cfg false fs).map
          expectedFrame := by
      intro m
      obtain ⟨h1, h2⟩ := block_plain cfg hst d hd m
      rw [h2, ih h1 hrest]
      by_cases ha : abortsAtEnd cfg d <;> simp [ha]
    rcases hc with _ | hc
    · rw [fromFresh]
      simp [survivors]
    · by_cases hn : n ≤ 1
      · rw [show n - 1 = 0 by omega, block_from_hunt_skip cfg d hd c hc, List.nil_append,
          ih .fresh hrest]
        simp [survivors, hn]
      · obtain ⟨m, hm⟩ : ∃ m, n - 1 = m + 1 := ⟨n - 1 - 1, by omega⟩
        have e : run cfg c (block (n - 1) d) = run cfg fresh (block m d) := by
          rw [hm, block_succ, run_cons, step_hunt_flag cfg c hc]
          rfl
        rw [e, fromFresh]
        simp [survivors, hn]

theorem run_shifted_synced_drop (cfg : Cfg) (hst : cfg.stuffing = false) {c : Core} {b : Bool}
    (hc : Synced c b) (fs : List (FrameDesc × Nat)) (k : Nat) (hfs : ∀ q ∈ fs, Plain q.1) :
    ∃ j, j ≤ b.toNat ∧
      (run cfg c (shifted false fs k)).2 = (survivors cfg false (fs.drop j)).map expectedFrame := by
  obtain ⟨j, hj, e⟩ := survivors_drop cfg b fs
  exact ⟨j, hj, by rw [run_shifted_synced cfg hst hc fs k hfs, e]⟩

theorem run_plain_noflag (cfg : Cfg) (hst : cfg.stuffing = false) (u : Bool) (q raw p : List Nat)
    (hq : flagOctet ∉ q) (hp : p.length ≤ 2047) :
    (p.length + q.length ≤ 2047 ∧ run cfg (st u raw p) q = (st u (raw ++ q) (p ++ q), [])) ∨
    ((run cfg (st u raw p) q).1.frame = none ∧ (run cfg (st u raw p) q).2 = []) := by
  induction q generalizing raw p with
  | nil => left; exact ⟨by simpa using hp, by simp⟩
  | cons x xs ih =>
    have hx : x ≠ flagOctet := fun e => hq (by simp [e])
    have hxs : flagOctet ∉ xs := fun h => hq (by simp [h])
    rw [run_cons, step_absorb (effect_of_ne hx) (unesc_plain hst u x)]
    by_cases hl : p.length + [x].length ≤ 2047
    · rw [if_pos hl]
      simp only [List.nil_append]
      rcases ih (raw ++ [x]) (p ++ [x]) hxs (by rw [List.length_append]; exact hl) with ⟨h1, h2⟩ | h
      · left
        refine ⟨by simp at h1 ⊢; omega, ?_⟩
        rw [h2]; simp
      · right; exact h
    · right
      rw [if_neg hl, run_hunt_noflag cfg _ xs rfl hxs]
      exact ⟨rfl, rfl⟩

/-- A garbage frame `p` in progress meets a block.  Either the garbage ends inside the block at a
    fill flag and the frame of the block is read from its start (`junk` is then the garbage frame,
    if returned); or the block is lost and the reader ends it synchronised — hunting only when the
    closing flag of the block caused it, so that the whole block but that flag was absorbed; or the
    whole block is absorbed. -/
theorem block_garbage (cfg : Cfg) (hst : cfg.stuffing = false) (d : FrameDesc) (h : Plain d)
    (m : Nat) (u : Bool) (raw p : List Nat) (hp : p ≠ []) (hl : p.length ≤ 2047) :
    (∃ junk, Synced (run cfg (st u raw p) (block m d)).1 (decide (abortsAtEnd cfg d)) ∧
      (run cfg (st u raw p) (block m d)).2 =
        junk ++ if abortsAtEnd cfg d then [] else [expectedFrame d]) ∨
    (∃ b, Synced (run cfg (st u raw p) (block m d)).1 b ∧
      (b = true → p.length + (block m d).length ≤ 2048)) ∨
    (run cfg (st u raw p) (block m d) = (st u (raw ++ block m d) (p ++ block m d), []) ∧
      p.length + (block m d).length ≤ 2047) := by
  induction m generalizing raw p with
  | zero =>
    simp only [block, List.replicate_zero, List.nil_append]
    rw [run_append]
    rcases run_plain_noflag cfg hst u d.encode raw p h.2 hl with ⟨h1, h2⟩ | ⟨h1, h2⟩
    · rw [h2]
      simp only [List.nil_append, run_cons, run_nil, List.append_nil]
      have hne : p ++ d.encode ≠ [] := by simp [hp]
      rcases step_flag_cases cfg u (raw ++ d.encode) (p ++ d.encode) hne with h3 | h3 | h3
      · exact Or.inr (Or.inl ⟨false, by rw [h3]; exact .fresh, nofun⟩)
      · refine Or.inr (Or.inl ⟨true, .hunt h3.1, fun _ => ?_⟩)
        simp only [List.length_append, List.length_cons, List.length_nil]
        omega
      · right; right
        rw [h3.2.2]
        simp only [List.append_assoc, List.length_append, List.length_cons, List.length_nil, true_and]
        have := h3.2.1
        simp only [List.length_append] at this
        omega
    · refine Or.inr (Or.inl ⟨false, ?_, nofun⟩)
      rw [run_cons, run_nil, step_hunt_flag cfg _ h1]
      exact .fresh
  | succ m ih =>
    rw [block_succ, run_cons]
    rcases step_flag_cases cfg u raw p hp with h3 | h3 | h3
    · rw [h3]
      obtain ⟨hs, ho⟩ := block_plain cfg hst d h m
      exact Or.inl ⟨[mk p], hs, congrArg ([mk p] ++ ·) ho⟩
    · rw [h3.2, List.nil_append]
      cases m with
      | zero =>
        rw [block_from_hunt_skip cfg d h _ h3.1]
        exact Or.inr (Or.inl ⟨false, .fresh, nofun⟩)
      | succ m =>
        rw [block_succ, run_cons, step_hunt_flag cfg _ h3.1]
        obtain ⟨hs, ho⟩ := block_plain cfg hst d h m
        exact Or.inl ⟨[], hs, ho⟩
    · rw [h3.2.2]
      have hne : p ++ [flagOctet] ≠ [] := by simp
      have hl' : (p ++ [flagOctet]).length ≤ 2047 := by simp; omega
      rcases ih (raw ++ [flagOctet]) (p ++ [flagOctet]) hne hl' with
        ⟨junk, h4⟩ | ⟨b, h4, h5⟩ | ⟨h4, h5⟩
      · exact Or.inl ⟨junk, h4⟩
      · refine Or.inr (Or.inl ⟨b, h4, fun hb => ?_⟩)
        have := h5 hb
        simp only [List.length_append, List.length_cons, List.length_nil] at this ⊢
        omega
      · right; right
        rw [h4]
        simp only [List.append_assoc, List.cons_append, List.nil_append, List.length_cons,
          List.length_append, List.length_nil] at h5 ⊢
        exact ⟨trivial, by omega⟩

theorem run_shifted_garbage (cfg : Cfg) (hst : cfg.stuffing = false) (L k : Nat)
    (fs : List (FrameDesc × Nat))
    (hfs : ∀ q ∈ fs, Plain q.1 ∧ 1 ≤ q.2 ∧ wireLen q ≤ L)
    (u : Bool) (raw p : List Nat) (hp : p ≠ []) (hl : p.length ≤ 2047) :
    ∃ junk j, (run cfg (st u raw p) (shifted false fs k)).2 =
        junk ++ (survivors cfg false (fs.drop j)).map expectedFrame ∧
      ((fs.take j).map wireLen).sum + p.length ≤ 2048 + L := by
  induction fs generalizing raw p with
  | nil => exact ⟨(run cfg (st u raw p) (shifted false [] k)).2, 0, by simp [survivors], by simp; omega⟩
  | cons a fs ih =>
    obtain ⟨d, n⟩ := a
    have hd := hfs (d, n) (by simp)
    have hrest : ∀ q ∈ fs, Plain q.1 ∧ 1 ≤ q.2 ∧ wireLen q ≤ L := fun q hq => hfs q (by simp [hq])
    have hplainr : ∀ q ∈ fs, Plain q.1 := fun q hq => (hrest q hq).1
    have hwl : wireLen (d, n) ≤ L := hd.2.2
    have hbl : (block (n - 1) d).length = wireLen (d, n) := by
      have : wireLen (d, n) = n + d.encode.length := rfl
      have := hd.2.1
      rw [block_length]; omega
    rw [shifted_cons_block, run_append_frames]
    rcases block_garbage cfg hst d hd.1 (n - 1) u raw p hp hl with
      ⟨junk, h1, h2⟩ | ⟨b, h1, h2⟩ | ⟨h1, h2⟩
    · -- the frame of the block is read from its start: as if the stream began here, synchronised
      refine ⟨junk, 0, ?_, by simp; omega⟩
      rw [h2, run_shifted_synced cfg hst h1 fs k hplainr]
      by_cases ha : abortsAtEnd cfg d <;> simp [survivors, ha]
    · obtain ⟨j, hj, e⟩ := run_shifted_synced_drop cfg hst h1 fs k hplainr
      refine ⟨_, j + 1, by rw [e]; rfl, ?_⟩
      simp only [List.take_succ_cons, List.map_cons, List.sum_cons]
      have h3 := sum_take_le_one fs L (fun q hq => (hrest q hq).2.2) j
      cases b with
      | false => have : j = 0 := Nat.le_zero.mp hj; subst this; simp; omega
      | true => have := h3 hj; have := h2 rfl; rw [hbl] at this; omega
    · have hne : p ++ block (n - 1) d ≠ [] := by simp [hp]
      have hl' : (p ++ block (n - 1) d).length ≤ 2047 := by simpa using h2
      obtain ⟨junk, j, e, hb⟩ := ih hrest (raw ++ block (n - 1) d) (p ++ block (n - 1) d) hne hl'
      refine ⟨junk, j + 1, ?_, ?_⟩
      · rw [h1, e]; simp
      · simp only [List.take_succ_cons, List.map_cons, List.sum_cons]
        simp only [List.length_append, hbl] at hb
        omega

/-- C16 without stuffing, whatever the last octet of the frames: from a point at most
    `maxFrameLen + L` octets into the clean stream on, exactly the `survivors` are delivered -/
theorem resync_plain_survivors_from (cfg : Cfg) (hst : cfg.stuffing = false) (c : Core) (hc : CoreInv c)
    (pre : List Nat) (hpre : Octets pre) (fs : List (FrameDesc × Nat)) (closing L : Nat)
    (hfs : ∀ p ∈ fs, p.1.WF ∧ 1 ≤ p.2 ∧ flag ∉ p.1.encode ∧ p.2 + p.1.encode.length ≤ L)
    (hcl : 1 ≤ closing) :
    ∃ junk k, (run cfg c (pre ++ wire false [] fs closing)).2 =
        junk ++ (survivors cfg false (fs.drop k)).map expectedFrame ∧
      ((fs.take k).map (fun p => p.2 + p.1.encode.length)).sum ≤ maxFrameLen + L := by
  have hc0 : CoreInv (run cfg c pre).1 := (run_inv cfg c pre hc hpre).2
  have hok : ∀ q ∈ fs, Plain q.1 ∧ 1 ≤ q.2 ∧ wireLen q ≤ L := fun q hq =>
    ⟨⟨(hfs q hq).1, (hfs q hq).2.2.1⟩, (hfs q hq).2.1, (hfs q hq).2.2.2⟩
  have hplain : ∀ q ∈ fs, Plain q.1 := fun q hq => (hok q hq).1
  have hwl : (fun p : FrameDesc × Nat => p.2 + p.1.encode.length) = wireLen := rfl
  rw [wire_eq_shifted _ _ _ _ (fun p hp => (hfs p hp).2.1) hcl, List.nil_append, run_append, run_cons,
    hwl, maxFrameLen_eq]
  have hshape := step_flag_shape cfg _ hc0
  generalize stepOctet cfg (run cfg c pre).1 flagOctet = r at hshape ⊢
  obtain ⟨c1, o1⟩ := r
  suffices key : ∃ junk k, (run cfg c1 (shifted false fs (closing - 1))).2 =
        junk ++ (survivors cfg false (fs.drop k)).map expectedFrame ∧
      ((fs.take k).map wireLen).sum ≤ 2047 + L by
    obtain ⟨junk, k, e, hb⟩ := key
    exact ⟨(run cfg c pre).2 ++ (o1 ++ junk), k, by rw [e]; simp, hb⟩
  rcases hshape with ⟨b, hb⟩ | ⟨-, u, raw, p, h, hp, hl⟩
  · obtain ⟨j, hj, e⟩ := run_shifted_synced_drop cfg hst hb fs _ hplain
    have := sum_take_le_one fs L (fun q hq => (hok q hq).2.2) j (Nat.le_trans hj (Bool.toNat_le b))
    exact ⟨[], j, by rw [e]; rfl, by omega⟩
  · obtain ⟨junk, j, e, hb⟩ := run_shifted_garbage cfg hst L (closing - 1) fs hok u raw p hp hl
    have hpl : 1 ≤ p.length := List.length_pos_iff.mpr hp
    exact ⟨junk, j, by rw [show c1 = st u raw p from h, e], by omega⟩

/-- C16 without stuffing for frames that do not end like an abort sequence (all
    frames when abort detection is off): every frame from the resynchronisation point on is delivered. -/
theorem resync_plain_from (cfg : Cfg) (hst : cfg.stuffing = false) (c : Core) (hc : CoreInv c)
    (pre : List Nat) (hpre : Octets pre) (fs : List (FrameDesc × Nat)) (closing L : Nat)
    (hfs : ∀ p ∈ fs, p.1.WF ∧ 1 ≤ p.2 ∧ flag ∉ p.1.encode ∧
      (cfg.abort = true → p.1.encode.getLast? ≠ some esc) ∧ p.2 + p.1.encode.length ≤ L)
    (hcl : 1 ≤ closing) :
    ∃ junk k, (run cfg c (pre ++ wire false [] fs closing)).2 =
        junk ++ (fs.drop k).map (fun p => expectedFrame p.1) ∧
      ((fs.take k).map (fun p => p.2 + p.1.encode.length)).sum ≤ maxFrameLen + L := by
  obtain ⟨junk, k, e, hb⟩ := resync_plain_survivors_from cfg hst c hc pre hpre fs closing L
    (fun p hp => ⟨(hfs p hp).1, (hfs p hp).2.1, (hfs p hp).2.2.1, (hfs p hp).2.2.2.2⟩) hcl
  refine ⟨junk, k, ?_, hb⟩
  rw [e, survivors_all cfg (fs.drop k)
    (fun p hp ha => (hfs p (List.mem_of_mem_drop hp)).2.2.2.1 ha.1 ha.2), List.map_map]
  rfl

end Amshan.HdlcClean
