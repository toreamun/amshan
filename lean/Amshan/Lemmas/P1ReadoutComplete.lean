import Amshan.Lemmas.P1ReadoutIdent
import Amshan.Lemmas.P1Wire
/-
  Well-formed readouts (`ReadoutDesc.WF`): the model constructs exactly `expectedReadout d` from
  `d.encode`, reports it valid, and returns the transmitted payload and identification.
-/
namespace Amshan.P1L
open Amshan.Gen Amshan.P1 Amshan.P1Spec Amshan.Py

theorem spec_isUpper (x : Nat) : P1Spec.isUpper x = Py.isUpper x := rfl

theorem spec_isAlpha (x : Nat) : P1Spec.isAlpha x = Py.isAlpha x := rfl

theorem spec_isDigit (x : Nat) : P1Spec.isDigit x = Py.isDigit x := rfl

theorem spec_isWord (x : Nat) : P1Spec.isWord x = Py.isWord x := rfl

theorem identBody_ends (d : ReadoutDesc) (h : d.WF) :
    ∃ u x, identBody d = u ++ [x] ∧ isStrSpace x = false := by
  obtain ⟨a, b, c, hm, _⟩ := wf_man d h
  obtain ⟨_, hid, _, hlast⟩ := wf_ident d h
  have hbd := (isDigit_iff _).mp h.2.1
  unfold identBody
  rw [hm]
  rcases List.eq_nil_or_concat d.ident with hi | ⟨init, x, hi⟩
  · rcases List.eq_nil_or_concat d.escs with he | ⟨einit, w, he⟩
    · exact ⟨[a, b, c], d.baud, by rw [hi, he]; rfl, isStrSpace_of_gt (by omega)⟩
    · refine ⟨[a, b, c, d.baud] ++ escFlat einit ++ [92], w, ?_, ?_⟩
      · rw [hi, he]
        simp [List.flatMap_append]
      · have hw : w ∈ d.escs := by rw [he]; simp
        have := range_of_isWord w (List.all_eq_true.mp h.2.2.1 w hw)
        exact isStrSpace_of_gt (by omega)
  · refine ⟨[a, b, c, d.baud] ++ escFlat d.escs ++ init, x, by rw [hi]; simp, ?_⟩
    have hx : x ∈ d.ident := by rw [hi]; simp
    have hp := printable_of_dataChar x (hid x hx)
    have hne : x ≠ 32 := by
      intro e
      apply hlast
      rw [hi, e]
      simp
    simp only [Py.isPrintable, Bool.and_eq_true, decide_eq_true_eq] at hp
    exact isStrSpace_of_gt (by omega)

/-- the matcher on the identification line, stripped (`tail = []`) or as popped by the reader -/
theorem identMatch_wf (d : ReadoutDesc) (h : d.WF) (tail : List Nat) (ht : tail = [] ∨ tail = [13, 10]) :
    identMatch (47 :: (identBody d ++ tail)) =
      some { manid := d.man, ident := if d.ident.isEmpty then none else some d.ident } := by
  obtain ⟨a, b, c, hm, ha, hb, hc⟩ := wf_man d h
  obtain ⟨hlen, hid, hesc, _⟩ := wf_ident d h
  have hprint : d.ident.all Py.isPrintable = true :=
    List.all_eq_true.mpr fun y hy => printable_of_dataChar y (hid y hy)
  have hi : ∀ w rest, d.ident ++ tail = 92 :: w :: rest → Py.isWord w = false := by
    intro w rest e
    cases hi : d.ident with
    | nil => rw [hi] at e; rcases ht with rfl | rfl <;> simp at e
    | cons x t =>
      rw [hi] at e
      cases t with
      | nil =>
        rcases ht with rfl | rfl
        · simp at e
        · simp only [List.cons_append, List.nil_append, List.cons.injEq] at e
          rw [← e.2.1]; rfl
      | cons y t' =>
        simp only [List.cons_append, List.cons.injEq] at e
        rw [← e.2.1]
        exact hesc y t' (by rw [hi, e.1])
  have e : 47 :: (identBody d ++ tail) =
      47 :: a :: b :: c :: d.baud :: (escFlat d.escs ++ (d.ident ++ tail)) := by
    simp [identBody, hm]
  rw [e, hm]
  exact identMatch_of_parts a b c d.baud d.escs d.ident tail ha hb hc h.2.1 h.2.2.1 hi hprint hlen
    (by rcases ht with rfl | rfl <;> simp)

theorem isIdentLine_identLine (d : ReadoutDesc) (h : d.WF) : isIdentLine d.identLine = true := by
  have e : d.identLine = 47 :: (identBody d ++ [13, 10]) := by rw [identLine_eq]; simp
  rw [isIdentLine, e, identMatch_wf d h _ (Or.inr rfl)]
  rfl

theorem front_chars (d : ReadoutDesc) (h : d.WF) :
    ∀ x ∈ identBody d ++ [13] ++ [10] ++ d.payload, x ≠ 33 ∧ x < 128 := by
  intro x hx
  simp only [List.mem_append, List.mem_cons, List.not_mem_nil, or_false] at hx
  rcases hx with ((hx | hx) | hx) | hx
  · have := okc_identBody d h x hx
    exact ⟨this.2.2.1, this.2.2.2⟩
  · omega
  · omega
  · rcases payload_chars d h x hx with h1 | h1 | h1
    · exact ⟨h1.2.2.1, h1.2.2.2⟩
    · omega
    · omega

theorem identLine_ascii (d : ReadoutDesc) (h : d.WF) : ∀ y ∈ d.identLine, y < 128 := by
  intro y hy
  rw [identLine_eq] at hy
  rcases List.mem_cons.mp hy with rfl | hy
  · decide
  · exact (front_chars d h y (List.mem_append_left _ hy)).2

theorem exp_eq_cut (d : ReadoutDesc) :
    expectedReadout d = cutReadout (identBody d ++ [13]) d.payload (csText d ++ [13, 10]) := by
  unfold expectedReadout cutReadout
  rw [← encode_cut, body_eq, identLine_eq]
  simp [Nat.add_assoc]

theorem make_encode (d : ReadoutDesc) (h : d.WF) :
    Readout.make d.encode = .ok (expectedReadout d) := by
  rw [exp_eq_cut, encode_cut]
  refine make_cut [] _ _ _ rfl ?_ (fun m => (front_chars d h 33 m).1 rfl)
  simp only [List.mem_append, List.mem_cons, List.not_mem_nil, or_false, not_or]
  exact ⟨fun m => (okc_identBody d h 10 m).1 rfl, by decide⟩

theorem exp_payload (d : ReadoutDesc) : (expectedReadout d).payload = d.payload := by
  rw [exp_eq_cut, cut_payload]

theorem hexVal_hexLower : ∀ n < 16, hexVal? (hexLower n) = some n := by decide

theorem hexVal_hexUpper : ∀ n < 16, hexVal? (hexUpper n) = some n := by decide

theorem isChecksumText_hex4 (lower : Bool) (v : Nat) (term : List Nat) (hv : v < 65536)
    (hterm : term = [] ∨ term = [10] ∨ term = [13, 10]) :
    IsChecksumText (hex4 lower v ++ term) v := by
  have hh : ∀ n, hexVal? ((if lower then hexLower else hexUpper) (n % 16)) = some (n % 16) := by
    intro n
    cases lower
    · exact hexVal_hexUpper _ (Nat.mod_lt _ (by decide))
    · exact hexVal_hexLower _ (Nat.mod_lt _ (by decide))
  exact ⟨_, _, _, _, v / 4096 % 16, v / 256 % 16, v / 16 % 16, v % 16, term, rfl,
    hh _, hh _, hh _, hh _, by omega, hterm⟩

theorem body_octets (d : ReadoutDesc) (h : d.WF) : Octets d.body := by
  intro x hx
  rw [body_eq, identLine_eq] at hx
  rcases List.mem_append.mp hx with hx | hx
  · rcases List.mem_cons.mp hx with rfl | hx
    · decide
    · have := (front_chars d h x hx).2
      omega
  · simp only [List.mem_cons, List.not_mem_nil, or_false] at hx
    omega

theorem exp_identLine (d : ReadoutDesc) (h : d.WF) :
    (expectedReadout d).identLine =
      .ok { manid := d.man, ident := if d.ident.isEmpty then none else some d.ident } := by
  obtain ⟨u, x, hu, hx⟩ := identBody_ends d h
  have htake : (expectedReadout d).bytes.take (expectedReadout d).dataPos = d.identLine := by
    rw [exp_eq_cut, cut_take_dataPos, identLine_eq]
  have hstrip : strip d.identLine = 47 :: (identBody d ++ []) := by
    have e : d.identLine = 47 :: u ++ [x] ++ [13, 10] := by rw [identLine_eq, hu]; simp
    rw [e, strip_core 47 x u [13, 10] (by decide) hx (by decide), List.append_nil, hu]
    rfl
  rw [identLine_ok_iff, htake, hstrip]
  exact ⟨identLine_ascii d h, identMatch_wf d h [] (Or.inl rfl)⟩

theorem exp_isValid (d : ReadoutDesc) (h : d.WF) : (expectedReadout d).isValid = .ok true := by
  have hid := (identLine_ok_iff _ _).1 (exp_identLine d h)
  have hd : (expectedReadout d).bytes.drop (expectedReadout d).endPos = 33 :: (csText d ++ [13, 10]) := by
    rw [exp_eq_cut, cut_drop_endPos]
  have hb : (expectedReadout d).bytes.take ((expectedReadout d).endPos + 1) = d.body := by
    rw [exp_eq_cut, cut_take_endPos, body_eq, identLine_eq]
  refine (isValid_true_iff _ _ hd).2 ⟨⟨hid.1, _, hid.2⟩, ?_, ?_, ?_⟩
  · intro ch hch
    rw [exp_payload] at hch
    have := (front_chars d h ch (List.mem_append_right _ hch)).2
    omega
  · intro x hx
    rcases List.mem_append.mp hx with hx | hx
    · exact (okc_csText d x hx).2.2.2
    · simp only [List.mem_cons, List.not_mem_nil, or_false] at hx
      omega
  · rw [hb]
    unfold csText
    cases d.checksum with
    | none => exact Or.inl rfl
    | some lower =>
      exact Or.inr (isEndHexInt_of_checksumText _ _ (isChecksumText_hex4 lower _ [13, 10]
        (crc16Arc_lt _ (body_octets d h)) (Or.inr (Or.inr rfl))))

end Amshan.P1L
