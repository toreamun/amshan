import Amshan.Lemmas.P1CleanInv
/-
  C16 (P1 part): after arbitrary octets the reader is, at the latest after the end line of the
  first following readout, in the clean-stream invariant `Inv` of C05.
  Phases:  `InvP` (still before the first LF of the first readout: any state satisfying `BI`),
           `InvN` (inside the first readout, after its identification line),
           `Inv`  (clean).
-/
namespace Amshan.P1
open Amshan.Gen Amshan.P1Spec

/-- the remaining lines of the first readout: data lines, then the end line -/
def MidLines (Ld : List (List Nat)) (el : List Nat) : Prop :=
  (∀ l ∈ Ld, IsDataLine l) ∧ IsLine el ∧ (∃ t, el = 33 :: t) ∧ 47 ∉ el

theorem midLines_no_start (Ld : List (List Nat)) (el : List Nat) (h : MidLines Ld el) :
    47 ∉ (Ld ++ [el]).flatten := by
  simp only [List.flatten_append, List.flatten_cons, List.flatten_nil, List.append_nil,
    List.mem_append, List.mem_flatten, not_or, not_exists, not_and]
  exact ⟨fun l hl m => (h.1 l hl).no_start m, h.2.2.2⟩

theorem midLines_of_wf (d : ReadoutDesc) (h : d.WF) : MidLines (dataLines d) (endLine d) :=
  ⟨isDataLine_of_mem d h, isLine_endLine d, ⟨_, rfl⟩, endLine_no_start d⟩

theorem midLines_isLine {Ld : List (List Nat)} {el : List Nat} {Lc : List (List Nat)}
    {outs : List Readout} (hm : MidLines Ld el) (htr : Trace [] true Lc outs) :
    ∀ l ∈ Ld ++ el :: Lc, IsLine l := by
  intro l hl
  rcases List.mem_append.mp hl with h | h
  · exact (hm.1 l h).isLine
  · rcases List.mem_cons.mp h with rfl | h
    · exact hm.2.1
    · exact trace_isLine Lc _ _ _ htr l h

/-- inside the first readout (after its identification line) -/
def InvN (r : Reader) (rest : List Nat) (outs : List Readout) : Prop :=
  BI r.raw r.hunt ∧ ∃ v Ld el Lc, MidLines Ld el ∧ r.buf.inp ++ v = (Ld ++ [el]).flatten ∧
    rest = v ++ Lc.flatten ∧ Trace [] true Lc outs

/-- result of a call that started before the end of the first readout: still inside it, or clean
    after some junk readouts -/
def Post (r : Reader) (rest : List Nat) (outs o : List Readout) : Prop :=
  InvN r rest outs ∨ ∃ junk o1 o2, o = junk ++ o1 ∧ outs = o1 ++ o2 ∧ Inv r rest o2

theorem Post.prefix {r : Reader} {rest : List Nat} {outs o : List Readout} (j : List Readout)
    (h : Post r rest outs o) : Post r rest outs (j ++ o) := by
  rcases h with h | ⟨junk, o1, o2, h1, h2, h3⟩
  · exact Or.inl h
  · exact Or.inr ⟨j ++ junk, o1, o2, by rw [h1, List.append_assoc], h2, h3⟩

theorem loop_mid {raw : List Nat} {hunt : Bool} (hb : BI raw hunt) {Ld : List (List Nat)}
    {el : List Nat} {Lc : List (List Nat)} {outs : List Readout} (hm : MidLines Ld el)
    (htr : Trace [] true Lc outs) (c : Nat) (X rest' : List Nat) (out : List Readout)
    (he : X ++ rest' = (Ld ++ el :: Lc).flatten) :
    ∃ r' o, loop ⟨c, X⟩ raw hunt out = .ok (r', out ++ o) ∧ Post r' rest' outs o := by
  obtain ⟨L1, L2, p, hLs, rfl, hp, hr⟩ := prefix_lines _ X rest' (midLines_isLine hm htr) he
  suffices h : ∃ raw' hunt' o, Feed raw hunt L1 raw' hunt' o ∧
      Post ⟨⟨c + L1.flatten.length, p⟩, raw', hunt'⟩ rest' outs o by
    obtain ⟨raw', hunt', o, hf, hpost⟩ := h
    exact ⟨_, o, loop_feed hf c p out hp, hpost⟩
  have inside : ∀ a', Ld = L1 ++ a' → L2 = a' ++ el :: Lc → ∃ raw' hunt' o,
      Feed raw hunt L1 raw' hunt' o ∧ Post ⟨⟨c + L1.flatten.length, p⟩, raw', hunt'⟩ rest' outs o := by
    rintro a' rfl rfl
    obtain ⟨raw', hunt', o, hf, hb'⟩ := feed_BI L1 raw hunt hb
      (fun l m => (hm.1 l (List.mem_append_left _ m)).isLine)
    have hm' : MidLines a' el := ⟨fun l m => hm.1 l (List.mem_append_right _ m), hm.2⟩
    refine ⟨raw', hunt', o, hf, Or.inl ⟨hb', ?_⟩⟩
    obtain ⟨v, hv, hrest⟩ := partial_prefix p rest' (a' ++ [el]).flatten Lc.flatten hp
      (by simp [hm.2.1.lf_mem]) (by simpa using hr)
    exact ⟨v, a', el, Lc, hm', hv.symm, hrest, htr⟩
  rcases List.append_eq_append_iff.mp hLs.symm with ⟨a', h1, h2⟩ | ⟨c', h1, h2⟩
  · exact inside a' h1 h2
  · cases c' with
    | nil => exact inside [] (by simpa using h1.symm) (by simpa using h2.symm)
    | cons x Lc1 =>
      simp only [List.cons_append, List.cons.injEq] at h2
      obtain ⟨rfl, rfl⟩ := h2
      subst h1
      obtain ⟨raw1, hunt1, o1, hf1, hb1⟩ := feed_BI Ld raw hunt hb (fun l m => (hm.1 l m).isLine)
      obtain ⟨tl, rfl⟩ := hm.2.2.1
      obtain ⟨ro, hh⟩ := handleLine_end_BI raw1 hunt1 tl hb1
      obtain ⟨raw', hunt', o2, o3, hf2, ho, ht'⟩ := trace_split Lc1 L2 [] true outs htr
      exact ⟨raw', hunt', _, hf1.append (.cons hm.2.1 hh hf2), Or.inr ⟨o1 ++ ro.toList, o2, o3, by simp, ho,
        Or.inr ⟨L2, ht', hp, hr⟩⟩⟩

theorem loop_hunt_post (t : List Nat) (Ls : List (List Nat)) (outs : List Readout) (chunk rest' : List Nat)
    (ht : 47 ∉ t) (he : chunk ++ rest' = t ++ Ls.flatten) (htr : Trace [] true Ls outs) :
    ∃ r' o, loop ⟨0, chunk.dropWhile notStart⟩ [] true [] = .ok (r', o) ∧ Post r' rest' outs o := by
  obtain ⟨r', o1, o2, h1, h2, h3⟩ := loop_hunt t Ls outs chunk rest' ht he htr
  exact ⟨r', o1, h1, Or.inr ⟨[], o1, o2, rfl, h2, h3⟩⟩

theorem mid_step (r : Reader) (chunk rest' : List Nat) (outs : List Readout)
    (h : InvN r (chunk ++ rest') outs) :
    ∃ r' o, read r chunk = .ok (r', o) ∧ Post r' rest' outs o := by
  obtain ⟨hb, v, Ld, el, Lc, hm, hi, he, htr⟩ := h
  have h47 := midLines_no_start Ld el hm
  rw [← hi] at h47
  have hv : 47 ∉ v := fun m => h47 (List.mem_append_right _ m)
  have hinp : 47 ∉ r.buf.inp := fun m => h47 (List.mem_append_left _ m)
  by_cases hov : r.buf.inp.length + r.raw.length > p1Guard
  · rw [read_over r chunk hov]
    exact loop_hunt_post v Lc outs chunk rest' hv he htr
  · cases hh : r.hunt with
    | true =>
      rw [hh] at hb
      rw [read_hunt r chunk (by omega) hh, List.dropWhile_append_of_pos (notStart_of_not_mem hinp), hb.1 rfl]
      exact loop_hunt_post v Lc outs chunk rest' hv he htr
    | false =>
      rw [hh] at hb
      rw [read_nohunt r chunk (by omega) hh]
      have he2 : (r.buf.inp ++ chunk) ++ rest' = (Ld ++ el :: Lc).flatten := by
        rw [List.append_assoc, he, ← List.append_assoc, hi]; simp
      exact loop_mid hb hm htr 0 _ rest' [] he2

/-- arbitrary octets `u`, then the LF that ends the first identification line -/
def InvP (r : Reader) (rest : List Nat) (outs : List Readout) : Prop :=
  BI r.raw r.hunt ∧ ∃ u Ld el Lc, MidLines Ld el ∧
    rest = u ++ 10 :: ((Ld ++ [el]).flatten ++ Lc.flatten) ∧ Trace [] true Lc outs

theorem loop_pre {Ld : List (List Nat)} {el : List Nat} {Lc : List (List Nat)} {outs : List Readout}
    (hm : MidLines Ld el) (htr : Trace [] true Lc outs) {raw : List Nat} {hunt : Bool}
    (hb : BI raw hunt) (c : Nat) (Y X rest' : List Nat)
    (he : X ++ rest' = (Ld ++ [el]).flatten ++ Lc.flatten) :
    ∃ r' o, loop ⟨c, Y ++ 10 :: X⟩ raw hunt [] = .ok (r', o) ∧ Post r' rest' outs o := by
  obtain ⟨Ls, q, rfl, hLs, hq⟩ := lines_of Y
  obtain ⟨raw1, hunt1, o1, hf1, hb1⟩ := feed_BI (Ls ++ [q ++ [10]]) raw hunt hb
    (fun l m => (List.mem_append.mp m).elim (hLs l) (fun m => List.mem_singleton.mp m ▸ ⟨q, rfl, hq⟩))
  obtain ⟨r', o, h1, h2⟩ := loop_mid hb1 hm htr _ X rest' ([] ++ o1) (by simpa using he)
  have e : (Ls.flatten ++ q) ++ 10 :: X = (Ls ++ [q ++ [10]]).flatten ++ X := by simp
  exact ⟨r', o1 ++ o, by rw [e, loop_lines hf1, h1]; rfl, h2.prefix o1⟩

theorem loop_pre_trim {Ld : List (List Nat)} {el : List Nat} {Lc : List (List Nat)}
    {outs : List Readout} (hm : MidLines Ld el) (htr : Trace [] true Lc outs) (Y X rest' : List Nat)
    (he : X ++ rest' = (Ld ++ [el]).flatten ++ Lc.flatten) :
    ∃ r' o, loop ⟨0, (Y ++ 10 :: X).dropWhile notStart⟩ [] true [] = .ok (r', o) ∧
      Post r' rest' outs o := by
  rw [List.dropWhile_append]
  split
  · -- no start character in `Y`: the trim goes on through the LF into the first readout
    rw [List.dropWhile_cons_of_pos (by decide)]
    exact loop_hunt_post _ Lc outs X rest' (midLines_no_start Ld el hm) he htr
  · exact loop_pre hm htr BI_init 0 _ X rest' he

theorem pre_step (r : Reader) (chunk rest' : List Nat) (outs : List Readout)
    (h : InvP r (chunk ++ rest') outs) :
    ∃ r' o, read r chunk = .ok (r', o) ∧ (InvP r' rest' outs ∨ Post r' rest' outs o) := by
  obtain ⟨hb, u, Ld, el, Lc, hm, he, htr⟩ := h
  have stay : ∀ a', rest' = a' ++ 10 :: ((Ld ++ [el]).flatten ++ Lc.flatten) →
      ∃ r' o, read r chunk = .ok (r', o) ∧ (InvP r' rest' outs ∨ Post r' rest' outs o) := by
    intro a' h2
    obtain ⟨r', o, h3, h4⟩ := read_BI r chunk hb
    exact ⟨r', o, h3, Or.inl ⟨h4, a', Ld, el, Lc, hm, h2, htr⟩⟩
  rcases List.append_eq_append_iff.mp he with ⟨a', _, h2⟩ | ⟨c', h1, h2⟩
  · exact stay a' h2
  · cases c' with
    | nil => exact stay [] (by simpa using h2.symm)
    | cons x X =>
      -- the call takes the LF: `chunk = u ++ LF ++ X`
      simp only [List.cons_append, List.cons.injEq] at h2
      obtain ⟨hx, hX⟩ := h2
      subst hx
      subst h1
      have cross : ∃ r' o, read r (u ++ 10 :: X) = .ok (r', o) ∧ Post r' rest' outs o := by
        by_cases hov : r.buf.inp.length + r.raw.length > p1Guard
        · rw [read_over r _ hov]
          exact loop_pre_trim hm htr u X rest' hX.symm
        · cases hh : r.hunt with
          | true =>
            rw [hh] at hb
            rw [read_hunt r _ (by omega) hh, hb.1 rfl, ← List.append_assoc]
            exact loop_pre_trim hm htr (r.buf.inp ++ u) X rest' hX.symm
          | false =>
            rw [hh] at hb
            rw [read_nohunt r _ (by omega) hh, ← List.append_assoc]
            exact loop_pre hm htr hb 0 (r.buf.inp ++ u) X rest' hX.symm
      obtain ⟨r', o, h3, h4⟩ := cross
      exact ⟨r', o, h3, Or.inr h4⟩

def InvR (r : Reader) (rest : List Nat) (outs : List Readout) : Prop :=
  InvP r rest outs ∨ InvN r rest outs

theorem invR_nil (r : Reader) (outs : List Readout) (h : InvR r [] outs) : outs = [] := by
  rcases h with ⟨_, u, Ld, el, Lc, _, he, _⟩ | ⟨_, v, Ld, el, Lc, _, _, he, htr⟩
  · have := congrArg List.length he
    simp at this
  · have h0 : v ++ Lc.flatten = [] := he.symm
    simp only [List.append_eq_nil_iff] at h0
    exact trace_nolf _ _ _ _ htr (by rw [h0.2]; simp)

theorem readAll_resync (chunks : List (List Nat)) : ∀ (r : Reader) (outs : List Readout),
    InvR r chunks.flatten outs →
    ∃ r' os junk, readAll r chunks = .ok (r', os) ∧ os.flatten = junk ++ outs := by
  induction chunks with
  | nil =>
    intro r outs h
    exact ⟨r, [], [], rfl, by rw [invR_nil r outs h]; rfl⟩
  | cons ch chs ih =>
    intro r outs h
    rw [List.flatten_cons] at h
    have step : ∃ r' o, read r ch = .ok (r', o) ∧ (InvR r' chs.flatten outs ∨
        ∃ junk o1 o2, o = junk ++ o1 ∧ outs = o1 ++ o2 ∧ Inv r' chs.flatten o2) := by
      rcases h with h | h
      · obtain ⟨r', o, h1, h2⟩ := pre_step r ch _ outs h
        exact ⟨r', o, h1, or_assoc.mpr h2⟩
      · obtain ⟨r', o, h1, h2⟩ := mid_step r ch _ outs h
        exact ⟨r', o, h1, h2.imp_left Or.inr⟩
    obtain ⟨r1, o, h1, h2 | ⟨junk, o1, o2, h3, h4, h5⟩⟩ := step
    · obtain ⟨r2, os, junk, h6, h7⟩ := ih r1 outs h2
      exact ⟨r2, o :: os, o ++ junk, by simp only [readAll, h1, h6],
        by rw [List.flatten_cons, h7, List.append_assoc]⟩
    · obtain ⟨r2, os, h6, h7⟩ := readAll_inv chs r1 o2 h5
      exact ⟨r2, o :: os, junk, by simp only [readAll, h1, h6],
        by rw [List.flatten_cons, h7, h3, h4, List.append_assoc]⟩

/-- **C16 (P1 part), from any state the reader can be in**: after arbitrary octets `pre` every
    well-formed readout but possibly the first is delivered -/
theorem resync_from (r : Reader) (hb : BI r.raw r.hunt) (pre : List Nat) (ds : List ReadoutDesc)
    (chunks : List (List Nat)) (hds : ∀ d ∈ ds, d.WF ∧ d.encode.length ≤ p1Guard)
    (hch : chunks.flatten = pre ++ ds.flatMap ReadoutDesc.encode) :
    ∃ r' outs junk, readAll r chunks = .ok (r', outs) ∧
      outs.flatten = junk ++ ds.tail.map expectedReadout := by
  cases ds with
  | nil =>
    obtain ⟨r', os, h, _⟩ := readAll_BI chunks r hb
    exact ⟨r', os, os.flatten, h, by simp⟩
  | cons d ds' =>
    have hd := (hds d (by simp)).1
    have hds' : ∀ d' ∈ ds', d'.WF ∧ d'.encode.length ≤ p1Guard :=
      fun d' m => hds d' (List.mem_cons_of_mem _ m)
    apply readAll_resync chunks r _
    refine Or.inl ⟨hb, pre ++ 47 :: (identBody d ++ [13]), dataLines d, endLine d,
      ds'.flatMap wireLines, midLines_of_wf d hd, ?_, trace_stream ds' hds'⟩
    rw [hch, List.flatMap_cons, flatten_stream, encode_eq d, wireLines, identLine_eq]
    simp

/-- C16 (P1 part) -/
theorem resync (pre : List Nat) (ds : List ReadoutDesc) (chunks : List (List Nat))
    (hds : ∀ d ∈ ds, d.WF ∧ d.encode.length ≤ p1Guard)
    (hch : chunks.flatten = pre ++ ds.flatMap ReadoutDesc.encode) :
    ∃ r outs junk, readAll Reader.init chunks = .ok (r, outs) ∧
      outs.flatten = junk ++ ds.tail.map expectedReadout :=
  resync_from Reader.init BI_init pre ds chunks hds hch

end Amshan.P1
