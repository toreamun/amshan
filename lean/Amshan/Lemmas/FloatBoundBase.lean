import Amshan.Model.Float
import Mathlib.Tactic.Linarith
import Mathlib.Tactic.Ring
import Mathlib.Tactic.NormNum
import Mathlib.Tactic.Positivity
/-
  Error bounds for the exact binary64 model (Model/Float.lean).  `val` is the rational value of a finite float;
  each operation of the model is described once by what it does to `val`, and an error analysis is then
  arithmetic on rationals: a relative error is invariant under scaling, and two roundings to 53 bits in a row
  stay within 2^-51.  Here: those rational facts, and the integer division with remainder code under `ofRat`.
-/
namespace Amshan.Flt

/-- rational value of a finite float (0 for inf/nan) -/
def val : F → ℚ
  | .fin neg m e => (if neg then -1 else 1) * (m : ℚ) * (2 : ℚ) ^ e
  | _ => 0

@[simp] theorem val_fin_false (m : Nat) (e : Int) : val (.fin false m e) = (m : ℚ) * (2 : ℚ) ^ e := by
  simp [val]

/-- positive, finite, and 53 significant bits: half a unit in the last place is then at most 2^-53 of the value,
    which is where the relative error of every operation comes from -/
def Normal (x : F) : Prop := ∃ m e, x = .fin false m e ∧ 2 ^ 52 ≤ m

theorem near_scale {x y P : ℚ} (c : ℚ) (hc : 0 ≤ c) (h : |y - x| ≤ x / P) :
    |y * c - x * c| ≤ x * c / P := by
  rw [← sub_mul, abs_mul, abs_of_nonneg hc, mul_div_right_comm]
  exact mul_le_mul_of_nonneg_right h hc

/-- (1 + 2^-53)² < 1 + 2^-51 -/
theorem near_trans {a w z : ℚ} (ha : 0 ≤ a) (hw : |w - a| ≤ a / 2 ^ 53) (hz : |z - w| ≤ w / 2 ^ 53) :
    |z - a| ≤ a / 2 ^ 51 := by
  rw [abs_le] at hw hz ⊢
  constructor <;> linarith

/-- where the `< 2^50` hypotheses come from: below it a relative 2^-51 is less than 1/2 in absolute terms, so a
    neighbouring integer is not reached -/
theorem near_lt_half {a z : ℚ} (ha : a < 2 ^ 50) (hz : |z - a| ≤ a / 2 ^ 51) : |z - a| < 1 / 2 :=
  lt_of_le_of_lt hz (by linarith)

/-- lets `near_range` widen the range of an exact value too -/
theorem near_self {a : ℚ} (ha : 0 ≤ a) : |a - a| ≤ a / 2 ^ 53 := by
  rw [sub_self, abs_zero]; positivity

/-- One binade of slack: what is asked of an intended value is 2^±1020, so that its rounding is still inside
    the 2^±1021 that `ofRat_near` needs. -/
theorem near_range {a w : ℚ} (hlo : 1 / 2 ^ 1020 ≤ a) (hhi : a ≤ 2 ^ 1020) (hw : |w - a| ≤ a / 2 ^ 53) :
    1 / 2 ^ 1021 ≤ w ∧ w ≤ 2 ^ 1021 := by
  rw [abs_le] at hw
  rw [show (1021 : ℕ) = 1020 + 1 from rfl, pow_succ, ← div_div]
  -- `linarith` and `norm_num` do not evaluate a power above `exponentiation.threshold` (256) and fail on it:
  -- powers of 2 this large are compared by monotonicity or, as here, hidden behind a variable
  generalize (2 : ℚ) ^ 1020 = H at *
  constructor <;> linarith

/-- where `k ≤ 255` comes from: 10^255 ≤ 16^255 = 2^1020 (`10^k` itself cannot be evaluated, see `near_range`) -/
theorem decimal_ge {m k : Nat} (hm : 0 < m) (hk : k ≤ 255) :
    (1 : ℚ) / 2 ^ 1020 ≤ (m : ℚ) / ((10 ^ k : Nat) : ℚ) := by
  have h10 : ((10 ^ k : Nat) : ℚ) ≤ 2 ^ 1020 := by
    push_cast
    calc (10 : ℚ) ^ k ≤ (2 ^ 4) ^ k := pow_le_pow_left₀ (by norm_num) (by norm_num) k
      _ = 2 ^ (4 * k) := (pow_mul 2 4 k).symm
      _ ≤ 2 ^ 1020 := pow_le_pow_right₀ (by norm_num) (by omega)
  exact div_le_div₀ (by positivity) (by exact_mod_cast hm) (by positivity) h10

theorem nat_eq_of_near {r v : Nat} {y : ℚ} (hr : |(r : ℚ) - y| ≤ 1 / 2) (hv : |y - v| < 1 / 2) : r = v := by
  rw [abs_le] at hr
  rw [abs_lt] at hv
  have h1 : (r : ℚ) < v + 1 := by linarith
  have h2 : (v : ℚ) < r + 1 := by linarith
  have h1' : r < v + 1 := by exact_mod_cast h1
  have h2' : v < r + 1 := by exact_mod_cast h2
  omega

theorem floor_or_pred {a q : Nat} {z E : ℚ} (ha : (a : ℚ) ≤ z) (ha' : z < a + 1)
    (hq : (q : ℚ) ≤ E) (hlo : E - 1 < z) (hhi : z < q + 1) : a = q ∨ a + 1 = q := by
  have h1 : (a : ℚ) < q + 1 := by linarith
  have h2 : (q : ℚ) < a + 1 + 1 := by linarith
  have h1' : a < q + 1 := by exact_mod_cast h1
  have h2' : q < a + 1 + 1 := by exact_mod_cast h2
  omega

theorem natdiv_floor (N D : Nat) (hD : 0 < D) :
    ((N / D : Nat) : ℚ) ≤ (N : ℚ) / D ∧ (N : ℚ) / D < ((N / D : Nat) : ℚ) + 1 := by
  have hD' : (0 : ℚ) < D := by exact_mod_cast hD
  constructor
  · rw [le_div_iff₀ hD']
    have := Nat.div_mul_le_self N D
    exact_mod_cast this
  · rw [div_lt_iff₀ hD']
    have := Nat.lt_div_mul_add hD (a := N)
    have h2 : N < (N / D + 1) * D := by
      rw [Nat.add_mul, Nat.one_mul]; exact this
    exact_mod_cast h2

theorem cross_div {N D a b : Nat} (hD : 0 < D) (hb : 0 < b) (h : N * b = a * D) : (N : ℚ) / D = a / b := by
  rw [div_eq_div_iff (by positivity) (by positivity)]; exact_mod_cast h

/-- `N/D = a/b` with `a < 2^51`, raised by a relative 2^-51, is still below the next integer: multiples of
    `1/b` are at least `1/b` below it -/
theorem frac_lt_succ_floor {N D a b : Nat} (hD : 0 < D) (hb : 0 < b) (h : N * b = a * D) (ha : a < 2 ^ 51) :
    (N : ℚ) / D + N / D / 2 ^ 51 < (N / D : Nat) + 1 := by
  have hb' : (0 : ℚ) < b := by exact_mod_cast hb
  have h1 : ((a : ℚ) + 1) / b ≤ (N / D : Nat) + 1 := by
    have hlt := (natdiv_floor N D hD).2
    rw [cross_div hD hb h, div_lt_iff₀ hb'] at hlt
    rw [div_le_iff₀ hb']
    exact_mod_cast Nat.succ_le_of_lt (by exact_mod_cast hlt : a < (N / D + 1) * b)
  have h2 : (a : ℚ) / b / 2 ^ 51 < 1 / b := by
    rw [div_right_comm]
    apply div_lt_div_of_pos_right _ hb'
    rw [div_lt_one (by positivity)]
    exact_mod_cast ha
  rw [cross_div hD hb h]
  rw [add_div] at h1
  linarith

/-- the comparison code computed by `scaledDiv` -/
def cmpCode (N D : Nat) : Nat :=
  if N % D = 0 then 0 else if 2 * (N % D) < D then 1 else if 2 * (N % D) = D then 2 else 3

theorem roundHalfEven_cases (q c : Nat) :
    roundHalfEven q c = q ∧ c ≠ 3 ∨ roundHalfEven q c = q + 1 ∧ (c = 2 ∨ c = 3) := by
  unfold roundHalfEven
  split
  · omega
  · split
    · split <;> omega
    · omega

theorem roundHalfEven_ge (q c : Nat) : q ≤ roundHalfEven q c := by
  rcases roundHalfEven_cases q c with ⟨h, _⟩ | ⟨h, _⟩ <;> omega

theorem cmpCode_spec (N D : Nat) :
    (cmpCode N D ≠ 3 → 2 * (N % D) ≤ D) ∧ (cmpCode N D = 2 ∨ cmpCode N D = 3 → D ≤ 2 * (N % D)) := by
  unfold cmpCode
  split
  · omega
  · split
    · omega
    · split <;> omega

theorem natdiv_round (N D : Nat) (hD : 0 < D) :
    |((roundHalfEven (N / D) (cmpCode N D) : Nat) : ℚ) - (N : ℚ) / D| ≤ 1 / 2 := by
  have hD' : (0 : ℚ) < D := by exact_mod_cast hD
  have hN : (N : ℚ) = D * (N / D : Nat) + (N % D : Nat) := by exact_mod_cast (Nat.div_add_mod N D).symm
  have hlt : ((N % D : Nat) : ℚ) < D := by exact_mod_cast Nat.mod_lt N hD
  rw [sub_div' hD'.ne', abs_div, abs_of_pos hD', div_le_iff₀ hD', abs_le]
  rcases roundHalfEven_cases (N / D) (cmpCode N D) with ⟨h, hc⟩ | ⟨h, hc⟩ <;> rw [h]
  · have : ((2 * (N % D) : Nat) : ℚ) ≤ D := by exact_mod_cast (cmpCode_spec N D).1 hc
    push_cast at this
    constructor <;> linarith
  · have : (D : ℚ) ≤ ((2 * (N % D) : Nat) : ℚ) := by exact_mod_cast (cmpCode_spec N D).2 hc
    push_cast at this ⊢
    constructor <;> linarith

/-- what `scaledDiv num den e` divides: its quotient is the floor of this and its code compares the rest with 1/2 -/
def sdVal (num den : Nat) (e : Int) : ℚ := (num : ℚ) / den * (2 : ℚ) ^ (-e)

/-- the model branches on the sign of a binary exponent and uses `2 ^ e.toNat` or `2 ^ (-e).toNat` -/
theorem zpow_split (e : Int) :
    (0 ≤ e ∧ (2 : ℚ) ^ e = ((2 ^ e.toNat : Nat) : ℚ)) ∨ (¬ 0 ≤ e ∧ (2 : ℚ) ^ e = 1 / ((2 ^ (-e).toNat : Nat) : ℚ)) := by
  rcases le_or_gt 0 e with h | h
  · left; refine ⟨h, ?_⟩
    rw [Nat.cast_pow, Nat.cast_ofNat, ← zpow_natCast, Int.toNat_of_nonneg h]
  · right; refine ⟨not_le.mpr h, ?_⟩
    rw [Nat.cast_pow, Nat.cast_ofNat, ← zpow_natCast, Int.toNat_of_nonneg (by omega), one_div, ← zpow_neg, neg_neg]

theorem scaledDiv_eq (num den : Nat) (e : Int) (hd : 0 < den) :
    ∃ N D : Nat, 0 < D ∧ scaledDiv num den e = (N / D, cmpCode N D) ∧ (N : ℚ) / D = sdVal num den e := by
  rw [sdVal, zpow_neg]
  rcases zpow_split e with ⟨h, hz⟩ | ⟨h, hz⟩ <;> rw [hz]
  · exact ⟨num, den * 2 ^ e.toNat, by positivity, by simp [scaledDiv, cmpCode, h],
      by rw [Nat.cast_mul, ← div_div, div_eq_mul_inv (_ / _)]⟩
  · exact ⟨num * 2 ^ (-e).toNat, den, hd, by simp [scaledDiv, cmpCode, h],
      by rw [Nat.cast_mul, one_div, inv_inv, mul_div_right_comm]⟩

theorem sd_floor (num den : Nat) (e : Int) (hd : 0 < den) :
    ((scaledDiv num den e).1 : ℚ) ≤ sdVal num den e ∧
    sdVal num den e < ((scaledDiv num den e).1 : ℚ) + 1 := by
  obtain ⟨N, D, hD, heq, hv⟩ := scaledDiv_eq num den e hd
  rw [heq, ← hv]
  exact natdiv_floor N D hD

theorem sd_round (num den : Nat) (e : Int) (hd : 0 < den) :
    |((roundHalfEven (scaledDiv num den e).1 (scaledDiv num den e).2 : Nat) : ℚ) - sdVal num den e|
      ≤ 1 / 2 := by
  obtain ⟨N, D, hD, heq, hv⟩ := scaledDiv_eq num den e hd
  rw [heq, ← hv]
  exact natdiv_round N D hD

end Amshan.Flt
