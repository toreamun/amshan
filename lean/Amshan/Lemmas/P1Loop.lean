import Amshan.Lemmas.P1Eqns
import Amshan.Lemmas.P1Wire
/-
  What `loop` does: it folds `handleLine` over the complete lines at the front of the
  buffer (`Feed`) and stops at the partial line behind them (`loop_feed`).  Every buffer is such a
  sequence of lines and a partial line (`lines_of`); a buffer that is a prefix of known lines consists
  of some of them and the beginning of the next (`prefix_lines`).  Never raising (C14), clean delivery
  (C05) and resynchronisation (C16) are then facts about `Feed`.
-/
namespace Amshan.P1
open Amshan.Gen Amshan.P1Spec

theorem split_lf (l : List Nat) : 10 ∉ l ∨ ∃ body rest, l = body ++ 10 :: rest ∧ 10 ∉ body := by
  by_cases h : 10 ∈ l
  · exact Or.inr (List.eq_append_cons_of_mem h)
  · exact Or.inl h

theorem first_lf_unique (a b c d : List Nat) (ha : 10 ∉ a) (hc : 10 ∉ c)
    (h : a ++ 10 :: b = c ++ 10 :: d) : a = c ∧ b = d := by
  have h1 := pop_some 0 a b ha
  rw [h, pop_some 0 c d hc] at h1
  simp only [Option.some.injEq, Prod.mk.injEq, List.append_cancel_right_eq, Buf.mk.injEq] at h1
  exact ⟨h1.1.symm, h1.2.2.symm⟩

theorem loop_nolf (c : Nat) (inp raw : List Nat) (hunt : Bool) (out : List Readout)
    (h : 10 ∉ inp) : loop ⟨c, inp⟩ raw hunt out = .ok (⟨⟨c, inp⟩, raw, hunt⟩, out) :=
  loop_of_pop_none _ _ _ _ (pop_none _ h)

theorem loop_line (c : Nat) (body rest raw : List Nat) (hunt : Bool) (out : List Readout)
    (h : 10 ∉ body) (raw1 : List Nat) (hunt1 : Bool) (ro : Option Readout)
    (hl : handleLine raw hunt (body ++ [10]) = .ok (raw1, hunt1, ro)) :
    loop ⟨c, body ++ 10 :: rest⟩ raw hunt out =
      loop ⟨c + body.length + 1, rest⟩ raw1 hunt1 (out ++ ro.toList) := by
  rw [loop_of_pop_some _ _ _ _ _ _ (pop_some c body rest h), hl]

/-- `handleLine` folded over complete lines: the state after them and the readouts delivered -/
inductive Feed : List Nat → Bool → List (List Nat) → List Nat → Bool → List Readout → Prop
  | nil (raw hunt) : Feed raw hunt [] raw hunt []
  | cons {raw hunt l raw1 hunt1 ro Ls raw2 hunt2 o} : IsLine l →
      handleLine raw hunt l = .ok (raw1, hunt1, ro) → Feed raw1 hunt1 Ls raw2 hunt2 o →
      Feed raw hunt (l :: Ls) raw2 hunt2 (ro.toList ++ o)

theorem Feed.append {raw hunt L1 raw1 hunt1 o1 L2 raw2 hunt2 o2} (h1 : Feed raw hunt L1 raw1 hunt1 o1)
    (h2 : Feed raw1 hunt1 L2 raw2 hunt2 o2) : Feed raw hunt (L1 ++ L2) raw2 hunt2 (o1 ++ o2) := by
  induction h1 with
  | nil => exact h2
  | cons hi hl _ ih => rw [List.cons_append, List.append_assoc]; exact .cons hi hl (ih h2)

theorem lines_of (Y : List Nat) :
    ∃ (Ls : List (List Nat)) (X : List Nat), Y = Ls.flatten ++ X ∧ (∀ l ∈ Ls, IsLine l) ∧ 10 ∉ X := by
  rcases split_lf Y with hY | ⟨body, rest, rfl, hb⟩
  · exact ⟨[], Y, rfl, by simp, hY⟩
  · obtain ⟨Ls, X, rfl, hL, hX⟩ := lines_of rest
    refine ⟨(body ++ [10]) :: Ls, X, by simp, ?_, hX⟩
    intro l hl
    rcases List.mem_cons.mp hl with rfl | hl
    · exact ⟨body, rfl, hb⟩
    · exact hL l hl
termination_by Y.length
decreasing_by subst_vars; simp; omega

theorem loop_lines {raw hunt Ls raw' hunt' o} (h : Feed raw hunt Ls raw' hunt' o) :
    ∀ (c : Nat) (X : List Nat) (out : List Readout),
    loop ⟨c, Ls.flatten ++ X⟩ raw hunt out = loop ⟨c + Ls.flatten.length, X⟩ raw' hunt' (out ++ o) := by
  induction h with
  | nil raw hunt => intro c X out; simp
  | @cons raw hunt l raw1 hunt1 ro Ls raw2 hunt2 o hi hl _ ih =>
    intro c X out
    obtain ⟨body, rfl, hb⟩ := hi
    have e : ((body ++ [10]) :: Ls).flatten ++ X = body ++ 10 :: (Ls.flatten ++ X) := by simp
    rw [e, loop_line _ _ _ _ _ _ hb _ _ _ hl, ih]
    simp only [List.flatten_cons, List.length_append, List.length_cons, List.length_nil,
      List.append_assoc, Nat.add_assoc, Nat.zero_add]

theorem loop_feed {raw hunt Ls raw' hunt' o} (h : Feed raw hunt Ls raw' hunt' o) (c : Nat) (X : List Nat)
    (out : List Readout) (hX : 10 ∉ X) :
    loop ⟨c, Ls.flatten ++ X⟩ raw hunt out =
      .ok (⟨⟨c + Ls.flatten.length, X⟩, raw', hunt'⟩, out ++ o) := by
  rw [loop_lines h, loop_nolf _ _ _ _ _ hX]

theorem prefix_lines (Ls : List (List Nat)) : ∀ X rest : List Nat, (∀ l ∈ Ls, IsLine l) →
    X ++ rest = Ls.flatten → ∃ L1 L2 p, Ls = L1 ++ L2 ∧ X = L1.flatten ++ p ∧ 10 ∉ p ∧
      p ++ rest = L2.flatten := by
  induction Ls with
  | nil =>
    intro X rest _ he
    simp only [List.flatten_nil, List.append_eq_nil_iff] at he
    exact ⟨[], [], [], rfl, by simp [he.1], by simp, by simp [he.2]⟩
  | cons l Ls ih =>
    intro X rest hL he
    rcases split_lf X with hX | ⟨b2, X2, rfl, hb2⟩
    · exact ⟨[], l :: Ls, X, rfl, rfl, hX, he⟩
    · obtain ⟨body, rfl, hb⟩ := hL l List.mem_cons_self
      have he' : b2 ++ 10 :: (X2 ++ rest) = body ++ 10 :: Ls.flatten := by simpa using he
      obtain ⟨rfl, e2⟩ := first_lf_unique _ _ _ _ hb2 hb he'
      obtain ⟨L1, L2, p, rfl, rfl, hp, hr⟩ := ih X2 rest (fun l m => hL l (List.mem_cons_of_mem _ m)) e2
      exact ⟨(b2 ++ [10]) :: L1, L2, p, rfl, by simp, hp, hr⟩

theorem IsLine.lf_mem {l : List Nat} (h : IsLine l) : 10 ∈ l := by
  obtain ⟨body, rfl, _⟩ := h
  simp

theorem partial_prefix (p rest F B : List Nat) (hp : 10 ∉ p) (hF : 10 ∈ F) (h : p ++ rest = F ++ B) :
    ∃ v, F = p ++ v ∧ rest = v ++ B := by
  rcases List.append_eq_append_iff.mp h with ⟨v, h1, h2⟩ | ⟨c, h1, _⟩
  · exact ⟨v, h1, h2⟩
  · exact absurd (h1 ▸ List.mem_append_left c hF) hp

end Amshan.P1
