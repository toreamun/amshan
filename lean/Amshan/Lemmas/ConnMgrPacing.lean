import Amshan.Lemmas.ConnMgr
/-
  The pacing theorems of Props/C18Trace.lean speak of the event log alone.  `Mon` is a monitor that reads
  a log and remembers what they need: the failure streak, the earliest time permitted for the next
  attempt, the last two losses.  `Checked` says that every attempt of a log met the monitor's state
  before it; the theorems read their bounds off a checked log.
-/
namespace Amshan.ConnMgr
open Amshan.BackOff

def streakStep (n : Nat) : Ev → Nat
  | .failed => n + 1
  | .obtained _ => 0
  | _ => n

def failStreakFrom (n : Nat) : List (Nat × Ev) → Nat
  | [] => n
  | (_, e) :: l => failStreakFrom (streakStep n e) l

/-- number of `failed` events since the last `obtained` event (or since the start) -/
def failStreak (l : List (Nat × Ev)) : Nat := failStreakFrom 0 l

theorem failStreakFrom_append (n : Nat) (a b : List (Nat × Ev)) :
    failStreakFrom n (a ++ b) = failStreakFrom (failStreakFrom n a) b := by
  induction a generalizing n with
  | nil => rfl
  | cons x a ih => obtain ⟨t, e⟩ := x; simp [failStreakFrom, ih]

theorem failStreak_snoc (l : List (Nat × Ev)) (t : Nat) (e : Ev) :
    failStreak (l ++ [(t, e)]) = streakStep (failStreak l) e := by
  simp [failStreak, failStreakFrom_append, failStreakFrom]

def countFailed : List (Nat × Ev) → Nat
  | [] => 0
  | (_, .failed) :: l => countFailed l + 1
  | _ :: l => countFailed l

theorem failStreakFrom_no_obtained (n : Nat) (l : List (Nat × Ev)) (h : ∀ x ∈ l, ∀ i, x.2 ≠ Ev.obtained i) :
    failStreakFrom n l = n + countFailed l := by
  induction l generalizing n with
  | nil => rfl
  | cons x l ih =>
    obtain ⟨t, e⟩ := x
    have hl := fun x hx => h x (List.mem_cons_of_mem _ hx)
    match e, h _ List.mem_cons_self with
    | .failed, _ => exact (ih (n + 1) hl).trans (Nat.add_right_comm n 1 _)
    | .obtained i, he => exact absurd rfl (he i)
    | .attempt, _ | .closed _, _ | .lost _, _ | .closeCalled, _ | .loopDone, _ => exact ih n hl

/-- what the pacing theorems need to remember of a log prefix -/
structure Mon where
  /-- consecutive failures (`failStreak`) -/
  n : Nat
  /-- the next attempt must not be earlier than this (0 = no obligation) -/
  nb : Nat
  /-- time of the last-but-one `lost` event -/
  l1 : Option Nat
  /-- time of the last `lost` event -/
  l2 : Option Nat

def Mon.zero : Mon := { n := 0, nb := 0, l1 := none, l2 := none }

def Mon.step (md : Nat) (m : Mon) : Nat × Ev → Mon
  | (t, .failed) => { m with n := m.n + 1, nb := max m.nb (t + min (2 ^ m.n) md) }
  | (_, .obtained _) => { m with n := 0 }
  | (_, .attempt) => { m with nb := 0 }
  | (t, .lost _) => { m with l1 := m.l2, l2 := some t }
  | (_, .closed _) => m
  | (_, .closeCalled) => m
  | (_, .loopDone) => m

def Mon.run (md : Nat) (m : Mon) (l : List (Nat × Ev)) : Mon := l.foldl (Mon.step md) m

@[simp] theorem Mon.run_nil (md : Nat) (m : Mon) : Mon.run md m [] = m := rfl
@[simp] theorem Mon.run_cons (md : Nat) (m : Mon) (x : Nat × Ev) (l : List (Nat × Ev)) :
    Mon.run md m (x :: l) = Mon.run md (m.step md x) l := rfl
theorem Mon.run_append (md : Nat) (m : Mon) (a b : List (Nat × Ev)) :
    Mon.run md m (a ++ b) = Mon.run md (Mon.run md m a) b := by
  simp [Mon.run, List.foldl_append]
theorem Mon.run_snoc (md : Nat) (m : Mon) (a : List (Nat × Ev)) (x : Nat × Ev) :
    Mon.run md m (a ++ [x]) = (Mon.run md m a).step md x := by
  simp [Mon.run, List.foldl_append]

theorem Mon.step_n (md : Nat) (m : Mon) (t : Nat) (e : Ev) : (m.step md (t, e)).n = streakStep m.n e := by
  cases e <;> rfl

theorem Mon.run_n (md : Nat) (m : Mon) (l : List (Nat × Ev)) : (Mon.run md m l).n = failStreakFrom m.n l := by
  induction l generalizing m with
  | nil => rfl
  | cons x l ih => obtain ⟨t, e⟩ := x; simp [ih, failStreakFrom, Mon.step_n]

theorem Mon.run_zero_n (md : Nat) (l : List (Nat × Ev)) : (Mon.run md Mon.zero l).n = failStreak l :=
  Mon.run_n md Mon.zero l

/-- events the monitor ignores -/
def Ev.quiet : Ev → Bool
  | .closed _ | .closeCalled | .loopDone => true
  | _ => false

theorem Mon.step_quiet (md : Nat) (m : Mon) (t : Nat) : ∀ {e : Ev}, e.quiet = true → m.step md (t, e) = m
  | .closed _, _ | .closeCalled, _ | .loopDone, _ => rfl

theorem Mon.run_quiet (md : Nat) (m : Mon) (l : List (Nat × Ev)) (h : l.all (·.2.quiet) = true) :
    Mon.run md m l = m := by
  induction l with
  | nil => rfl
  | cons x l ih =>
    rw [List.all_cons, Bool.and_eq_true] at h
    rw [Mon.run_cons, Mon.step_quiet md m x.1 h.1, ih h.2]

theorem Mon.step_nb_mono (md : Nat) (m : Mon) (t : Nat) : ∀ e, e ≠ Ev.attempt → m.nb ≤ (m.step md (t, e)).nb
  | .attempt, h => absurd rfl h
  | .failed, _ => Nat.le_max_left ..
  | .obtained _, _ | .closed _, _ | .lost _, _ | .closeCalled, _ | .loopDone, _ => Nat.le_refl _

theorem Mon.run_nb_mono (md : Nat) (m : Mon) (l : List (Nat × Ev)) (h : ∀ x ∈ l, x.2 ≠ Ev.attempt) :
    m.nb ≤ (Mon.run md m l).nb := by
  induction l generalizing m with
  | nil => exact Nat.le_refl _
  | cons x l ih =>
    exact Nat.le_trans (Mon.step_nb_mono md m x.1 x.2 (h x List.mem_cons_self))
      (ih _ (fun x hx => h x (List.mem_cons_of_mem _ hx)))

theorem Mon.run_failed (md : Nat) (m : Mon) (a b : List (Nat × Ev)) (t : Nat) (hb : ∀ x ∈ b, x.2 ≠ Ev.attempt) :
    t + min (2 ^ (Mon.run md m a).n) md ≤ (Mon.run md m (a ++ (t, Ev.failed) :: b)).nb := by
  rw [Mon.run_append, Mon.run_cons]
  exact Nat.le_trans (Nat.le_max_right ..) (Mon.run_nb_mono md ((Mon.run md m a).step md (t, .failed)) b hb)

theorem Mon.step_lost_free (md : Nat) (m : Mon) (t : Nat) :
    ∀ e, (∀ c, e ≠ Ev.lost c) → (m.step md (t, e)).l1 = m.l1 ∧ (m.step md (t, e)).l2 = m.l2
  | .lost c, h => absurd rfl (h c)
  | .attempt, _ | .failed, _ | .obtained _, _ | .closed _, _ | .closeCalled, _ | .loopDone, _ => ⟨rfl, rfl⟩

theorem Mon.run_lost_free (md : Nat) (m : Mon) (l : List (Nat × Ev)) (h : ∀ x ∈ l, ∀ c, x.2 ≠ Ev.lost c) :
    (Mon.run md m l).l1 = m.l1 ∧ (Mon.run md m l).l2 = m.l2 := by
  induction l generalizing m with
  | nil => exact ⟨rfl, rfl⟩
  | cons x l ih =>
    have h1 := Mon.step_lost_free md m x.1 x.2 (h x List.mem_cons_self)
    have h2 := ih (m.step md x) (fun x hx => h x (List.mem_cons_of_mem _ hx))
    exact ⟨h2.1.trans h1.1, h2.2.trans h1.2⟩

theorem Mon.run_lost (md : Nat) (m : Mon) (a b : List (Nat × Ev)) (t c : Nat) (hb : ∀ x ∈ b, ∀ c, x.2 ≠ Ev.lost c) :
    (Mon.run md m (a ++ (t, Ev.lost c) :: b)).l1 = (Mon.run md m a).l2 ∧
    (Mon.run md m (a ++ (t, Ev.lost c) :: b)).l2 = some t := by
  rw [Mon.run_append, Mon.run_cons]
  exact Mon.run_lost_free md _ b hb

theorem Mon.run_l2_mem (md : Nat) (m : Mon) (l : List (Nat × Ev)) (t : Nat) (h : (Mon.run md m l).l2 = some t) :
    m.l2 = some t ∨ ∃ c, (t, Ev.lost c) ∈ l := by
  induction l generalizing m with
  | nil => exact .inl h
  | cons x l ih =>
    rcases ih _ h with h' | ⟨c, hc⟩
    · obtain ⟨t', e⟩ := x
      match e, h' with
      | .lost c, h' => exact .inr ⟨c, Option.some.inj h' ▸ List.mem_cons_self⟩
      | .attempt, h' | .failed, h' | .obtained _, h' | .closed _, h' | .closeCalled, h' | .loopDone, h' =>
        exact .inl h'
    · exact .inr ⟨c, List.mem_cons_of_mem _ hc⟩

theorem Mon.zero_l2_mem {md : Nat} {l : List (Nat × Ev)} {t : Nat} (h : (Mon.run md Mon.zero l).l2 = some t) :
    ∃ c, (t, Ev.lost c) ∈ l :=
  (Mon.run_l2_mem md Mon.zero l t h).resolve_left nofun

/-- every `attempt` event of the log satisfies `good` of the monitor state before it -/
def Checked (md : Nat) (good : Mon → Nat → Prop) : Mon → List (Nat × Ev) → Prop
  | _, [] => True
  | m, (t, e) :: l => (e = Ev.attempt → good m t) ∧ Checked md good (m.step md (t, e)) l

theorem Checked_append (md : Nat) (good : Mon → Nat → Prop) (m : Mon) (a b : List (Nat × Ev)) :
    Checked md good m (a ++ b) ↔ Checked md good m a ∧ Checked md good (Mon.run md m a) b := by
  induction a generalizing m with
  | nil => simp [Checked]
  | cons x a ih => obtain ⟨t, e⟩ := x; simp [Checked, ih, and_assoc]

section
variable {md : Nat} {good : Mon → Nat → Prop} {m : Mon} {a b : List (Nat × Ev)} {t : Nat}

theorem Checked.at_attempt (h : Checked md good m (a ++ (t, Ev.attempt) :: b)) : good (Mon.run md m a) t :=
  ((Checked_append ..).1 h).2.1 rfl

theorem Checked.snoc {e : Ev} (h : Checked md good m a) (hg : e = Ev.attempt → good (Mon.run md m a) t) :
    Checked md good m (a ++ [(t, e)]) :=
  (Checked_append ..).2 ⟨h, hg, trivial⟩

theorem Checked.append_quiet (h : Checked md good m a) (hq : b.all (·.2.quiet) = true) :
    Checked md good m (a ++ b) := by
  refine (Checked_append ..).2 ⟨h, ?_⟩
  generalize Mon.run md m a = m'
  induction b with
  | nil => trivial
  | cons x b ih =>
    rw [List.all_cons, Bool.and_eq_true] at hq
    exact ⟨(fun ha => nomatch ha ▸ hq.1), (Mon.step_quiet md m' x.1 hq.1).symm ▸ ih hq.2⟩

end

end Amshan.ConnMgr
