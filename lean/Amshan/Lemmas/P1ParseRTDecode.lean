import Amshan.Model.P1Parse
import Amshan.Spec.P1Block
/-
  What `_decode_parsed` does with one single-valued data set, split in two: the field name comes from
  the address alone (`itemName`), the value from unit, C.D.E and text alone (`itemVal`).  `decodeItem_eq`
  says so once; every statement about a decoded item is then a rewriting with the equations of `itemVal`.
  Also the guard of `decode_p1_readout_content`.
-/
open Amshan Amshan.Gen Amshan.Cosem Amshan.P1Parse Amshan.P1BlockSpec Amshan.Py
namespace Amshan.P1ParseRT

theorem unitsPlain_eq : unitsPlain = [[118],[97],[118,97,114],[118,97,114,104]] := by decide
theorem unitsKilo_eq : unitsKilo = [[107,119],[107,119,104],[107,118,97,114],[107,118,97,114,104]] := by decide
theorem clockCde_eq : clockCde = [49,46,48,46,48] := by decide

/-- the field name `decodeItem` uses -/
def itemName (g : Obis.Groups) : String :=
  match obisNameMap.lookup (Py.toString (Obis.cdeStr g)) with
  | some n => n
  | none => Py.toString (Obis.cdeStr g)

/-- the unit `decodeItem` goes by: lower case, an empty one counts as none -/
def itemUnit : Option (List Nat) → Option (List Nat)
  | some u => if u.isEmpty then none else some (lower u)
  | none => none

/-- the value `decodeItem` stores: by unit, else by C.D.E -/
def itemVal (unit : Option (List Nat)) (cde text : List Nat) : Except PyExc Val :=
  if (match unit with | some u => unitsPlain.contains u | none => false) then
    (Flt.ofStr text).map Val.flt
  else if (match unit with | some u => unitsKilo.contains u | none => false) then
    (Flt.ofStr text).bind fun f => (Flt.toInt (Flt.mul f (Flt.ofNat 1000))).map Val.int
  else if cde == clockCde then (parseP1Datetime text).map Val.dt
  else .ok (Val.str text)

theorem decodeItem_eq (addr : List Nat) (v : DataSetValue) (g : Obis.Groups)
    (hg : Obis.parse addr = .ok g) :
    decodeItem ⟨addr, [v]⟩ =
      (itemVal (itemUnit v.unit) (Obis.cdeStr g) v.value).map (itemName g, ·) := by
  unfold decodeItem itemVal itemName
  simp only [hg, bind, Except.bind, Except.map, pure, Except.pure]
  -- The name table and the unit lists are closed off before anything is compared: left open, every
  -- `rfl` below evaluates them as far as it can (the two sides use different auxiliary matchers).
  generalize List.lookup (Py.toString (Obis.cdeStr g)) obisNameMap = name
  show (if (match itemUnit v.unit with | some u => unitsPlain.contains u | none => false) = true then _
    else if (match itemUnit v.unit with | some u => unitsKilo.contains u | none => false) = true then _
    else _) = _
  generalize (match itemUnit v.unit with | some u => unitsPlain.contains u | none => false) = plain
  generalize (match itemUnit v.unit with | some u => unitsKilo.contains u | none => false) = kilo
  cases plain
  · cases kilo
    · cases Obis.cdeStr g == clockCde
      · rfl
      · cases parseP1Datetime v.value <;> rfl
    · cases Flt.ofStr v.value with
      | error e => rfl
      | ok f =>
        dsimp only
        cases Flt.toInt (Flt.mul f (Flt.ofNat 1000)) <;> rfl
  · cases Flt.ofStr v.value <;> rfl

theorem decodeItem_name (item : DataSet) (k : String) (v : Val) (g : Obis.Groups)
    (hg : Obis.parse item.address = .ok g) (h : decodeItem item = .ok (k, v)) :
    k = itemName g := by
  obtain ⟨addr, vs⟩ := item
  match vs with
  | [w] =>
    rw [decodeItem_eq addr w g hg] at h
    cases hv : itemVal (itemUnit w.unit) (Obis.cdeStr g) w.value with
    | error e => rw [hv] at h; cases h
    | ok x => rw [hv] at h; exact (Prod.mk.inj (Except.ok.inj h)).1.symm
  | [] | _ :: _ :: _ => cases h

theorem itemUnit_some {u : List Nat} (h : u ≠ []) : itemUnit (some u) = some (lower u) := by
  cases u with
  | nil => exact absurd rfl h
  | cons a t => rfl

theorem itemVal_plain (u cde text : List Nat) (hu : unitsPlain.contains u = true) :
    itemVal (some u) cde text = (Flt.ofStr text).map Val.flt := by
  simp only [itemVal, hu, if_true]

theorem kilo_not_plain (u : List Nat) (h : unitsKilo.contains u = true) : unitsPlain.contains u = false := by
  rw [unitsKilo_eq] at h
  rw [unitsPlain_eq]
  simp only [List.contains_eq_mem, List.mem_cons, List.not_mem_nil, or_false, decide_eq_true_eq] at h
  rcases h with h | h | h | h <;> subst h <;> decide

theorem itemVal_kilo (u cde text : List Nat) (hu : unitsKilo.contains u = true) :
    itemVal (some u) cde text =
      (Flt.ofStr text).bind fun f => (Flt.toInt (Flt.mul f (Flt.ofNat 1000))).map Val.int := by
  simp only [itemVal, hu, kilo_not_plain u hu, if_true, if_false, Bool.false_eq_true]

theorem itemVal_none (cde text : List Nat) :
    itemVal none cde text =
      if cde == clockCde then (parseP1Datetime text).map Val.dt else .ok (Val.str text) := by
  simp only [itemVal, if_false, Bool.false_eq_true]

theorem decodeItem_verbatim (addr value : List Nat) (g : Obis.Groups) (hg : Obis.parse addr = .ok g)
    (hc : Obis.cdeStr g ≠ clockCde) :
    decodeItem ⟨addr, [⟨value, none⟩]⟩ = .ok (itemName g, .str value) := by
  rw [decodeItem_eq _ _ g hg, itemUnit, itemVal_none, if_neg (by simpa using hc)]
  rfl

theorem decodeItem_plain (addr value unit : List Nat) (g : Obis.Groups) (f : Flt.F)
    (hg : Obis.parse addr = .ok g) (hu : unitsPlain.contains (Py.lower unit) = true) (hne : unit ≠ [])
    (hf : Flt.ofStr value = .ok f) :
    decodeItem ⟨addr, [⟨value, some unit⟩]⟩ = .ok (itemName g, .flt f) := by
  rw [decodeItem_eq _ _ g hg, itemUnit_some hne, itemVal_plain _ _ _ hu, hf]
  rfl

theorem decodeItem_kilo (addr value unit : List Nat) (g : Obis.Groups) (f : Flt.F) (z : Int)
    (hg : Obis.parse addr = .ok g) (hu : unitsKilo.contains (Py.lower unit) = true) (hne : unit ≠ [])
    (hf : Flt.ofStr value = .ok f) (hz : Flt.toInt (Flt.mul f (Flt.ofNat 1000)) = .ok z) :
    decodeItem ⟨addr, [⟨value, some unit⟩]⟩ = .ok (itemName g, .int z) := by
  rw [decodeItem_eq _ _ g hg, itemUnit_some hne, itemVal_kilo _ _ _ hu, hf, Except.bind, hz]
  rfl

theorem decodeItem_clock (addr text : List Nat) (g : Obis.Groups) (t : DT) (hg : Obis.parse addr = .ok g)
    (hc : Obis.cdeStr g = clockCde) (ht : parseP1Datetime text = .ok t) :
    decodeItem ⟨addr, [⟨text, none⟩]⟩ = .ok (itemName g, .dt t) := by
  rw [decodeItem_eq _ _ g hg, itemUnit, itemVal_none, if_pos (by simpa using hc), ht]
  rfl

theorem intBase10_two : ∀ n, n < 100 → intBase10 [48 + n / 10, 48 + n % 10] = .ok (n : Int) := by
  decide +kernel

theorem parseP1Datetime_two (yy mo d h mi s : Nat) (suffix : List Nat)
    (hv : yy ≤ 99 ∧ 1 ≤ mo ∧ mo ≤ 12 ∧ 1 ≤ d ∧ d ≤ daysInMonth (2000 + yy) mo ∧ h ≤ 23 ∧ mi ≤ 59 ∧ s ≤ 59) :
    parseP1Datetime ([48 + yy / 10, 48 + yy % 10] ++ [48 + mo / 10, 48 + mo % 10] ++ [48 + d / 10, 48 + d % 10]
      ++ [48 + h / 10, 48 + h % 10] ++ [48 + mi / 10, 48 + mi % 10] ++ [48 + s / 10, 48 + s % 10] ++ suffix) =
    .ok { year := 2000 + yy, month := mo, day := d, hour := h, minute := mi, second := s, micro := 0, tz := none } := by
  obtain ⟨h1, h2, h3, h4, h5, h6, h7, h8⟩ := hv
  have hd31 : daysInMonth (2000 + yy) mo ≤ 31 := by
    unfold daysInMonth; split <;> split <;> omega
  unfold parseP1Datetime
  simp only [slice, List.cons_append, List.nil_append, List.take_succ_cons, List.take_zero, List.drop_succ_cons, List.drop_zero]
  rw [intBase10_two yy (by omega), intBase10_two mo (by omega), intBase10_two d (by omega),
    intBase10_two h (by omega), intBase10_two mi (by omega), intBase10_two s (by omega)]
  simp only [bind, Except.bind, pure, Except.pure]
  have e1 : (2000 + (yy : Int)).toNat = 2000 + yy := by omega
  simp only [e1, Int.toNat_natCast]
  rw [if_pos]
  omega

theorem isControl_iff (c : Nat) : isControl c = true ↔ c < 32 ∧ c ≠ 13 ∧ c ≠ 10 := by
  simp only [isControl, Bool.and_eq_true, decide_eq_true_eq, bne_iff_ne, ne_eq]

theorem decodeContent_of_no_control (content : List Nat) (h : ∀ c ∈ content, 32 ≤ c ∨ c = 13 ∨ c = 10) :
    decodeContent content = decodeParsedContent content := by
  have hn : content.any isControl = false := by
    rw [List.any_eq_false]
    intro c hc
    have := h c hc
    rw [isControl_iff]
    omega
  rw [decodeContent, hn]
  rfl

theorem decodeContent_control (content : List Nat) (h : ∃ c ∈ content, c < 32 ∧ c ≠ 13 ∧ c ≠ 10) :
    decodeContent content = .error .valueError := by
  obtain ⟨c, hc, hcc⟩ := h
  rw [decodeContent, List.any_eq_true.mpr ⟨c, hc, (isControl_iff c).mpr hcc⟩]
  rfl

end Amshan.P1ParseRT
