import Amshan.Lemmas.P1ParseRTBlock
import Amshan.Lemmas.P1ParseRTDecode
/-
  `decode_p1_readout_content` on a rendered well-formed block: the guard passes (no control octets), the
  parser gives back the transmitted data sets, and these are decoded, or refused when there are none.
-/
open Amshan Amshan.Gen Amshan.Cosem Amshan.P1Parse Amshan.P1BlockSpec Amshan.Py
namespace Amshan.P1ParseRT

theorem decodeContent_render (b : List LineDesc) (h : ∀ l ∈ b, l.WF) :
    decodeContent (render b) =
      if ((b.flatMap (·.sets)).map parsedSet).isEmpty then .error .valueError
      else decodeParsed ((b.flatMap (·.sets)).map parsedSet) := by
  rw [decodeContent_of_no_control _ fun c hc => by
    have := render_chars b h c hc
    omega]
  obtain ⟨n, hn⟩ := parseContent_render b h
  unfold decodeParsedContent
  rw [hn]

end Amshan.P1ParseRT
