import Amshan.Model.Basic
/-
  Facts about the notions of Model/Basic.lean that several areas use, and `Outcome`: what a computation in
  `Except PyExc` may raise and what holds of its result, with the rules to chain such statements.
  Nothing generated is imported here.
-/
namespace Amshan

theorem Octets_nil : Octets [] := nofun

theorem Octets_append {a b : List Nat} : Octets (a ++ b) ↔ Octets a ∧ Octets b := by
  simp only [Octets, List.mem_append, or_imp, forall_and]

theorem Octets_cons {a : Nat} {b : List Nat} : Octets (a :: b) ↔ a < 256 ∧ Octets b := by
  simp only [Octets, List.mem_cons, forall_eq_or_imp]

theorem and_mask1 (x : Nat) : x &&& 1 = x % 2 := Nat.and_two_pow_sub_one_eq_mod x 1
theorem and_mask4 (x : Nat) : x &&& 15 = x % 16 := Nat.and_two_pow_sub_one_eq_mod x 4
theorem and_mask8 (x : Nat) : x &&& 255 = x % 256 := Nat.and_two_pow_sub_one_eq_mod x 8
theorem and_mask11 (x : Nat) : x &&& 2047 = x % 2048 := Nat.and_two_pow_sub_one_eq_mod x 11
theorem and_mask16 (x : Nat) : x &&& 65535 = x % 65536 := Nat.and_two_pow_sub_one_eq_mod x 16

theorem foldl_lt_of_step {step : Nat → Nat → Nat} (hs : ∀ r b, r < 65536 → b < 256 → step r b < 65536)
    {bs : List Nat} {r : Nat} (hr : r < 65536) (h : Octets bs) : bs.foldl step r < 65536 := by
  induction bs generalizing r with
  | nil => exact hr
  | cons b bs ih => exact ih (hs r b hr (Octets_cons.mp h).1) (Octets_cons.mp h).2

/-- `x` raises only exceptions that satisfy `E`, and its result, if it has one, satisfies `Q` -/
def Outcome {α : Type} (E : PyExc → Prop) (x : Except PyExc α) (Q : α → Prop) : Prop :=
  match x with
  | .error e => E e
  | .ok a => Q a

namespace Outcome
variable {α β : Type} {E : PyExc → Prop} {x : Except PyExc α} {Q Q' : α → Prop}

theorem error (h : Outcome E x Q) {e : PyExc} (hx : x = .error e) : E e := by
  subst hx; exact h

theorem ok (h : Outcome E x Q) {a : α} (hx : x = .ok a) : Q a := by
  subst hx; exact h

theorem imp (h : Outcome E x Q) (hq : ∀ a, Q a → Q' a) : Outcome E x Q' := by
  cases x with
  | error e => exact h
  | ok a => exact hq a h

theorem bind {f : α → Except PyExc β} {R : β → Prop} (hx : Outcome E x Q)
    (hf : ∀ a, Q a → Outcome E (f a) R) : Outcome E (x >>= f) R := by
  cases x with
  | error e => exact hx
  | ok a => exact hf a hx

end Outcome

end Amshan
