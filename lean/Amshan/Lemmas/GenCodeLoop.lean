import Amshan.GenRuntime
/-
  The loop combinators `forLoop` / `forLoopMut` of Amshan/GenRuntime.lean.  As for folds (Lemmas/GenCodeBase.lean), a
  proof never writes down the body of a generated loop: it is found by unification (`forLoop_congr (g := reference
  body)`), and its pointwise equality with the reference body - a hand-written function in the vocabulary of the model -
  is left as a goal.  The other lemmas recognise the loops that sources write for one job in several ways
  (a `break` at the first hit or a flag raised in a fold; counting from `start` or adding `start` to the counter).
-/
namespace Amshan.GenLemmas
open Amshan.GenRt

universe u v w
variable {α : Type w} {σ : Type u} {ρ : Type v}

@[simp] theorem forLoop_nil (s : σ) (body : σ → α → Step σ ρ) (k : σ → ρ) : forLoop [] s body k = k s := rfl

theorem forLoop_cons (x : α) (xs : List α) (s : σ) (body : σ → α → Step σ ρ) (k : σ → ρ) :
    forLoop (x :: xs) s body k =
      match body s x with
      | .next s' => forLoop xs s' body k
      | .brk s' => k s'
      | .ret r => r := rfl

theorem forLoop_congr {f g : σ → α → Step σ ρ} (l : List α) (s : σ) (k : σ → ρ) (h : ∀ s a, f s a = g s a) :
    forLoop l s f k = forLoop l s g k := by
  have : f = g := funext fun s => funext (h s)
  rw [this]

/-- so that sources that count from `start` and sources that add `start` to the counter are compared with one
    reference loop -/
theorem forLoop_range'_shift_add (f : σ → Nat → Step σ ρ) (k : σ → ρ) (n a b : Nat) (s : σ) :
    forLoop (List.range' (a + b) n) s f k = forLoop (List.range' a n) s (fun st i => f st (i + b)) k := by
  induction n generalizing a s with
  | zero => rfl
  | succ n ih =>
    rw [List.range'_succ, List.range'_succ, forLoop_cons, forLoop_cons]
    have h := ih (a + 1)
    rw [Nat.add_right_comm] at h
    cases f s (a + b) with
    | next s' => exact h s'
    | brk s' => rfl
    | ret r => rfl

theorem forLoop_range'_shift (f : σ → Nat → Step σ ρ) (k : σ → ρ) (n a : Nat) (s : σ) :
    forLoop (List.range' a n) s f k = forLoop (List.range' 0 n) s (fun st i => f st (i + a)) k := by
  have := forLoop_range'_shift_add f k n 0 a s
  rwa [Nat.zero_add] at this

theorem forLoop_next {f : σ → α → Step σ ρ} {g : σ → α → σ} (l : List α) (s : σ) (k : σ → ρ)
    (h : ∀ s a, f s a = .next (g s a)) : forLoop l s f k = k (l.foldl g s) := by
  induction l generalizing s with
  | nil => rfl
  | cons x xs ih => rw [forLoop_cons, h]; exact ih _

theorem forLoop_find {f : σ → α → Step σ ρ} (p : α → Bool) (b : σ → α → σ) (l : List α) (s : σ) (k : σ → ρ)
    (h : ∀ s a, f s a = if p a then .brk (b s a) else .next s) :
    forLoop l s f k = match l.find? p with | some a => k (b s a) | none => k s := by
  induction l generalizing s with
  | nil => rfl
  | cons x xs ih =>
    rw [forLoop_cons, h]
    by_cases hp : p x = true
    · simp [hp]
    · simp [hp, ih]

@[simp] theorem forLoopMut_go_nil (body : σ → α → α × Step σ ρ) (k : List α → σ → ρ) (done : List α) (s : σ) :
    forLoopMut.go body k done [] s = k done s := rfl

theorem forLoopMut_go_cons (body : σ → α → α × Step σ ρ) (k : List α → σ → ρ) (done : List α) (x : α) (xs : List α) (s : σ) :
    forLoopMut.go body k done (x :: xs) s =
      match body s x with
      | (x', .next s') => forLoopMut.go body k (done ++ [x']) xs s'
      | (x', .brk s') => k (done ++ x' :: xs) s'
      | (_, .ret r) => r := rfl

theorem forLoopMut_congr {f g : σ → α → α × Step σ ρ} (l : List α) (s : σ) (k : List α → σ → ρ) (h : ∀ s a, f s a = g s a) :
    forLoopMut l s f k = forLoopMut l s g k := by
  have : f = g := funext fun s => funext (h s)
  rw [this]

theorem forLoop_any {f : σ → α → Step σ ρ} (p : α → Bool) (c : σ) (l : List α) (s : σ) (k : σ → ρ)
    (h : ∀ a, f s a = if p a then .brk c else .next s) :
    forLoop l s f k = if l.any p then k c else k s := by
  induction l with
  | nil => rfl
  | cons x xs ih =>
    rw [forLoop_cons, h]
    by_cases hp : p x = true
    · simp [hp]
    · simp [hp, ih]

/-- The bodies need to agree ON THE INITIAL STATE only, when an iteration that goes on never changes the state: it is
    the only state the loop sees. -/
theorem forLoopMut_go_congr_const {f g : σ → α → α × Step σ ρ} (k : List α → σ → ρ) (s : σ)
    (hf : ∀ a, f s a = g s a) (hg : ∀ a x' s', g s a = (x', .next s') → s' = s) (done l : List α) :
    forLoopMut.go f k done l s = forLoopMut.go g k done l s := by
  induction l generalizing done with
  | nil => rfl
  | cons x xs ih =>
    rw [forLoopMut_go_cons, forLoopMut_go_cons, hf x]
    rcases hgx : g s x with ⟨x', st⟩
    cases st with
    | next s' => have := hg x x' s' hgx; subst this; exact ih _
    | brk s' => rfl
    | ret r => rfl

theorem foldl_flag_any {f : Bool → α → Bool} (p : α → Bool) (l : List α) (init : Bool)
    (h : ∀ b a, f b a = (p a || b)) : l.foldl f init = (l.any p || init) := by
  induction l generalizing init with
  | nil => simp
  | cons x xs ih =>
    rw [List.foldl_cons, ih, h, List.any_cons]
    cases hp : p x <;> cases init <;> cases xs.any p <;> rfl

/-- what `simp` turns `foldl_snoc`'s fold into -/
theorem flatten_map_singleton (l : List α) : (l.map (fun x => [x])).flatten = l := by
  rw [← List.flatMap_def, List.flatMap_singleton']

theorem foldl_snoc (l init : List α) : l.foldl (fun s a => s ++ [a]) init = init ++ l := by
  induction l generalizing init with
  | nil => simp
  | cons x xs ih => simp [ih]

end Amshan.GenLemmas
