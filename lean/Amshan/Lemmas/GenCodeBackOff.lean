import Amshan.Lemmas.GenCodeBase
import Amshan.GeneratedCodeBackOff
import Amshan.Model.BackOff
/- han/meter_connection.py: `ExponentialBackOff.failure / reset / current_delay_sec`, `ConnectionManager._get_back_off_time`.
   The right-hand sides are the bodies of the model's definitions; Props/C18Gen.lean folds them back. -/
namespace Amshan.GenLemmas
open Amshan.GenCode Amshan.Gen

theorem backoffFailure_eq (d : Nat) : backoffFailure d = if d * 2 = 0 then 1 else d * 2 := by
  unfold backoffFailure; gen_decide

theorem backoffReset_eq (d : Nat) : backoffReset d = 0 := by
  unfold backoffReset; gen_decide

theorem backoffCurrent_eq (d m : Nat) : backoffCurrent d m = if d < m then d else m := by
  unfold backoffCurrent; gen_decide

theorem getBackOffTime_eq (d : Nat) (flag : Bool) (sec : Nat) :
    GenCode.getBackOffTime d flag sec =
      if (decide (d > 0) || flag) then max d (if flag then sec else 0) else 0 := by
  unfold GenCode.getBackOffTime; gen_decide

end Amshan.GenLemmas
