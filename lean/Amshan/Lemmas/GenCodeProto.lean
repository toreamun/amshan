import Amshan.Lemmas.GenCodeLoop
import Amshan.GeneratedCodeProto
import Amshan.Model.ProtocolState
/- `SmartMeterBaseProtocol.data_received` and the two concrete `message_received` (han/meter_connection.py) against
   `Proto.dataReceived` / `Proto.trySelect`, `Proto.received` of Model/Protocol.lean.

   How `self` (`PyState`), the readers (`Rd.feed`), the candidate loop that changes them in place (`GenRt.forLoopMut`)
   and the forgotten index of the selected candidate (`State.erase`) are represented is said at the head of
   Props/C13GenProto.lean.

   The proof is by the reference body `protoRefBody` (one step of the model's `trySelect`, as a loop body): the
   generated body equals it on the state with which the loop is entered (no reader selected, the list not cleared,
   nothing forwarded) - by evaluation of the inner loops, whatever they look like - and an iteration that goes on
   leaves that state unchanged; `protoRef_trySelect` ties the reference loop to `trySelect` by induction. -/
set_option linter.unusedSimpArgs false
set_option linter.unusedVariables false
namespace Amshan.GenLemmas
open Amshan.GenCode Amshan.GenRt Amshan.Proto

universe v
variable {ρ : Type v}

/-- the state of the translated candidate loop: `_selected_reader`, "`_reader_candidates` was cleared", the messages forwarded -/
abbrev PSt := Option Rd × Bool × List Msg

/-- the messages given to `message_received` by one `data_received` call of the model -/
def forwardedNow (s : State) (data : List Nat) : List Msg :=
  match s.selected with
  | some (_, r) => (r.feed data).2
  | none =>
    match trySelect data s.candidates 0 with
    | (_, some (_, _, msgs)) => msgs
    | (_, none) => []

theorem dataReceived_items (k : Kind) (s : State) (data : List Nat) :
    (dataReceived k s data).2 = (forwardedNow s data).flatMap (received k) := by
  unfold dataReceived forwardedNow
  rcases s with ⟨sel, cands⟩
  cases sel with
  | some ir => rfl
  | none =>
    simp only
    rcases h : trySelect data cands 0 with ⟨cs, _ | ⟨i, r, msgs⟩⟩ <;> simp

def protoRefBody (data : List Nat) (st : PSt) (r : Rd) : Rd × Step PSt ρ :=
  if (r.feed data).2.any (·.valid) then
    ((r.feed data).1, .brk (some (r.feed data).1, true, st.2.2 ++ (r.feed data).2))
  else ((r.feed data).1, .next st)

theorem protoRef_trySelect (data : List Nat) (K : List Rd → PSt → ρ) (st : PSt) (done l : List Rd) (i : Nat) :
    forLoopMut.go (protoRefBody data) K done l st =
      match trySelect data l i with
      | (cs, none) => K (done ++ cs) st
      | (cs, some (_, r, msgs)) => K (done ++ cs) (some r, true, st.2.2 ++ msgs) := by
  induction l generalizing done i with
  | nil => simp [trySelect]
  | cons x xs ih =>
    rw [forLoopMut_go_cons, trySelect, protoRefBody]
    by_cases hv : (x.feed data).2.any (·.valid) = true
    · simp [hv]
    · simp only [hv, Bool.false_eq_true, if_false]
      rw [ih (done ++ [(x.feed data).1]) (i + 1)]
      rcases h : trySelect data xs (i + 1) with ⟨cs, _ | ⟨j, r, msgs⟩⟩ <;> simp

theorem protoDataReceived_eq (k : Kind) (s : State) (data : List Nat) :
    protoDataReceived s.erase data = ((dataReceived k s data).1.erase, forwardedNow s data) := by
  unfold protoDataReceived dataReceived forwardedNow State.erase
  rcases s with ⟨sel, cands⟩
  cases sel with
  | some ir =>
    rcases ir with ⟨i, r⟩
    simp [foldl_snoc, flatten_map_singleton, Rd.feed]
  | none =>
    simp only [Option.map_none, Option.isSome_none, Bool.false_eq_true, if_false]
    unfold forLoopMut
    rw [forLoopMut_go_congr_const (g := protoRefBody data)]
    · rw [protoRef_trySelect data _ _ [] cands 0]
      rcases h : trySelect data cands 0 with ⟨cs, _ | ⟨j, r, msgs⟩⟩ <;> simp [foldl_snoc, flatten_map_singleton]
    · intro a
      -- "does the candidate report a valid message?": a loop that breaks at the first one, or a fold that raises a flag
      try rw [forLoop_any (fun m : Msg => m.valid) (some (a.feed data).1, true) _ _ _ (by intro m; cases m.valid <;> simp)]
      try rw [foldl_flag_any (fun m : Msg => m.valid) _ _ (by intro b m; cases m.valid <;> simp)]
      unfold protoRefBody
      by_cases hv : (a.feed data).2.any (fun m => m.valid) = true
      · simp [hv, foldl_snoc, flatten_map_singleton]
      · simp [hv]
    · intro a x' s' h
      unfold protoRefBody at h
      split at h <;> simp_all

/-- `SmartMeterMessageProtocol.message_received` -/
theorem protoMessageReceived_eq (m : Msg) : (protoMessageReceived m).map Item.msg = received .message m := by
  unfold protoMessageReceived received
  simp

/-- `SmartMeterMessagePayloadProtocol.message_received` -/
theorem protoPayloadReceived_eq (m : Msg) : (protoPayloadReceived m).map Item.payload = received .payload m := by
  unfold protoPayloadReceived received
  rcases m with ⟨valid, payload, bytes⟩
  cases valid <;> cases payload <;> simp <;> grind

end Amshan.GenLemmas
