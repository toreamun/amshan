import Amshan.Lemmas.HdlcCleanRun
/-
  Resynchronisation of the HDLC reader (C16): the first flag of a clean stream synchronises a reader in
  any state satisfying the invariant — it is then hunting or at the start of a frame (`Synced`) — unless,
  without stuffing only, a frame in progress takes the flag as data (`step_flag_shape`).  A synchronised
  reader loses at most the first frame of a clean stream; hence the theorem for octet stuffing
  (`resync_stuffing_from`).
-/
namespace Amshan.HdlcClean
open Amshan.Gen Amshan.Hdlc Amshan.HdlcSpec

theorem step_flag_cases (cfg : Cfg) (u : Bool) (raw p : List Nat) (hp : p ≠ []) :
    stepOctet cfg (st u raw p) flagOctet = (fresh, [mk p]) ∨
    ((stepOctet cfg (st u raw p) flagOctet).1.frame = none ∧
      (stepOctet cfg (st u raw p) flagOctet).2 = []) ∨
    (cfg.stuffing = false ∧ p.length < 2047 ∧
      stepOctet cfg (st u raw p) flagOctet = (st u (raw ++ [flagOctet]) (p ++ [flagOctet]), [])) := by
  cases he : effect cfg raw (mk p) flagOctet with
  | restart => exact absurd (effect_restart he).2 (mk_len_ne_zero hp)
  | drop => rw [step_st, he]; exact Or.inr (Or.inl ⟨rfl, rfl⟩)
  | deliver => rw [step_st, he]; exact Or.inl rfl
  | absorb =>
    have hst := (effect_absorb_flag he).2.2.2.1
    rw [step_absorb he (unesc_plain hst u flagOctet)]
    by_cases hl : p.length + [flagOctet].length ≤ 2047
    · rw [if_pos hl]; exact Or.inr (Or.inr ⟨hst, hl, rfl⟩)
    · rw [if_neg hl]; exact Or.inr (Or.inl ⟨rfl, rfl⟩)

/-- the reader is synchronised: at the start of a frame, or hunting (the Boolean says which) -/
inductive Synced : Core → Bool → Prop
  | fresh : Synced fresh false
  | hunt {c : Core} : c.frame = none → Synced c true

theorem step_flag_shape (cfg : Cfg) (c : Core) (hc : CoreInv c) :
    (∃ b, Synced (stepOctet cfg c flagOctet).1 b) ∨
    (cfg.stuffing = false ∧
      ∃ u raw p, (stepOctet cfg c flagOctet).1 = st u raw p ∧ p ≠ [] ∧ p.length ≤ 2047) := by
  rcases core_shape c hc with h | ⟨p, _, h⟩
  · rw [step_hunt_flag cfg c h]; exact Or.inl ⟨false, .fresh⟩
  · rw [h]
    by_cases hp : p = []
    · subst hp; rw [step_empty_flag]; exact Or.inl ⟨false, .fresh⟩
    · rcases step_flag_cases cfg c.unescapeNext c.raw p hp with h1 | h1 | ⟨hst, hl, h1⟩
      · rw [h1]; exact Or.inl ⟨false, .fresh⟩
      · exact Or.inl ⟨true, .hunt h1.1⟩
      · rw [h1]
        exact Or.inr ⟨hst, _, _, _, rfl, by simp, by rw [List.length_append]; exact hl⟩

theorem run_synced_flags (cfg : Cfg) {c : Core} {b : Bool} (hc : Synced c b) (k : Nat) :
    (run cfg c (List.replicate k flagOctet)).2 = [] := by
  cases hc with
  | fresh => rw [run_fresh_flags]
  | hunt hc =>
    cases k with
    | zero => rfl
    | succ k => rw [run_hunt_flags cfg c hc]

theorem run_shifted_synced_inDomain (cfg : Cfg) {c : Core} {b : Bool} (hc : Synced c b)
    (fs : List (FrameDesc × Nat)) (k : Nat)
    (hfs : ∀ p ∈ fs, p.1.WF ∧ InDomain cfg.stuffing cfg.abort p.1 ∧
      flagOctet ∉ onWire cfg.stuffing p.1) :
    ∃ pre, (run cfg c (shifted cfg.stuffing fs k)).2 =
      pre ++ fs.tail.map (fun p => expectedFrame p.1) := by
  have hdom : ∀ p ∈ fs, p.1.WF ∧ InDomain cfg.stuffing cfg.abort p.1 :=
    fun p hp => ⟨(hfs p hp).1, (hfs p hp).2.1⟩
  cases fs with
  | nil => exact ⟨[], by rw [shifted_nil, run_synced_flags cfg hc]; rfl⟩
  | cons p fs =>
    have hall := run_shifted_fresh cfg (p :: fs) k hdom
    rcases hc with _ | hc
    · exact ⟨[expectedFrame p.1], by rw [hall]; rfl⟩
    obtain ⟨d, n⟩ := p
    have hd := hfs (d, n) (by simp)
    by_cases hn : n - 1 = 0
    · -- no second flag in front of the frame: the hunting reader skips it
      refine ⟨[], ?_⟩
      rw [shifted_cons, hn, List.replicate_zero, List.nil_append, run_append, run_append,
        run_hunt_noflag cfg c _ hc hd.2.2, run_cons, step_hunt_flag cfg c hc, run_nil,
        run_shifted_fresh cfg fs k fun p hp => hdom p (List.mem_cons_of_mem _ hp)]
      rfl
    · obtain ⟨m, hm⟩ : ∃ m, n - 1 = m + 1 := ⟨n - 1 - 1, by omega⟩
      have e1 : run cfg c (shifted cfg.stuffing ((d, n) :: fs) k) =
          run cfg fresh (shifted cfg.stuffing ((d, n) :: fs) k) := by
        rw [shifted_cons, hm, List.append_assoc, run_append, run_append (c := fresh),
          run_hunt_flags cfg c hc, run_fresh_flags]
      exact ⟨[expectedFrame d], by rw [e1, hall]; rfl⟩

theorem Octets_stuff (a : List Nat) (h : Octets a) : Octets (stuff a) := by
  induction a with
  | nil => exact Octets_nil
  | cons x xs ih =>
    rw [Octets_cons] at h
    simp only [stuff]
    split
    · rename_i hx
      rw [Octets_cons, Octets_cons]
      refine ⟨by decide, ?_, ih h.2⟩
      rcases hx with hx | hx <;> subst hx <;> decide
    · rw [Octets_cons]; exact ⟨h.1, ih h.2⟩

theorem resync_stuffing_from (cfg : Cfg) (hst : cfg.stuffing = true) (c : Core) (hc : CoreInv c)
    (pre : List Nat) (hpre : Octets pre) (fs : List (FrameDesc × Nat)) (closing : Nat)
    (hfs : ∀ p ∈ fs, p.1.WF ∧ 1 ≤ p.2) (hcl : 1 ≤ closing) :
    ∃ junk, (run cfg c (pre ++ wire true [] fs closing)).2 =
      junk ++ fs.tail.map (fun p => expectedFrame p.1) := by
  have hc0 : CoreInv (run cfg c pre).1 := (run_inv cfg c pre hc hpre).2
  have hdom : ∀ p ∈ fs, p.1.WF ∧ InDomain cfg.stuffing cfg.abort p.1 ∧
      flagOctet ∉ onWire cfg.stuffing p.1 := by
    intro p hp
    refine ⟨(hfs p hp).1, Or.inl hst, ?_⟩
    rw [hst]; exact flag_not_mem_stuff _
  rw [wire_eq_shifted _ _ _ _ (fun p hp => (hfs p hp).2) hcl, List.nil_append, run_append, run_cons]
  rw [← hst]
  rcases step_flag_shape cfg _ hc0 with ⟨b, hb⟩ | ⟨h, -⟩
  · obtain ⟨pre', e⟩ := run_shifted_synced_inDomain cfg hb fs (closing - 1) hdom
    exact ⟨(run cfg c pre).2 ++ ((stepOctet cfg (run cfg c pre).1 flagOctet).2 ++ pre'), by
      simp only [e, List.append_assoc]⟩
  · rw [hst] at h; cases h

end Amshan.HdlcClean
