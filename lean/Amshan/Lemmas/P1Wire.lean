import Amshan.Model.P1Defs
/-
  The wire form of a well-formed readout (Spec/P1Wire.lean) cut into lines, and the character
  classes of its parts.
-/
namespace Amshan.P1
open Amshan.Gen Amshan.P1Spec

/-- a complete line as popped by the reader: no LF except the final one -/
def IsLine (l : List Nat) : Prop := ∃ body, l = body ++ [10] ∧ 10 ∉ body

/-- characters that are neither LF nor '/' nor '!' and are ASCII -/
def okc (c : Nat) : Prop := c ≠ 10 ∧ c ≠ 47 ∧ c ≠ 33 ∧ c < 128

def csText (d : ReadoutDesc) : List Nat :=
  match d.checksum with | some lower => hex4 lower (crc16Arc d.body) | none => []

def endLine (d : ReadoutDesc) : List Nat := 33 :: (csText d ++ [13, 10])

def dataLines (d : ReadoutDesc) : List (List Nat) := d.lines.map (· ++ [13, 10])

def wireLines (d : ReadoutDesc) : List (List Nat) := d.identLine :: (dataLines d ++ [endLine d])

def identBody (d : ReadoutDesc) : List Nat :=
  d.man ++ [d.baud] ++ d.escs.flatMap (fun w => [92, w]) ++ d.ident

theorem identLine_eq (d : ReadoutDesc) : d.identLine = 47 :: (identBody d ++ [13]) ++ [10] := by
  simp [ReadoutDesc.identLine, identBody]

theorem flatten_dataLines (d : ReadoutDesc) : (dataLines d).flatten = d.payload := by
  simp [dataLines, ReadoutDesc.payload, List.flatMap_def]

theorem body_eq (d : ReadoutDesc) : d.body = d.identLine ++ d.payload ++ [33] := rfl

theorem encode_eq (d : ReadoutDesc) : d.encode = (wireLines d).flatten := by
  simp only [wireLines, List.flatten_cons, List.flatten_append, flatten_dataLines, List.flatten_nil,
    List.append_nil, ReadoutDesc.encode, body_eq, endLine, csText]
  cases d.checksum <;> simp

theorem encode_cut (d : ReadoutDesc) :
    d.encode = 47 :: (identBody d ++ [13]) ++ [10] ++ d.payload ++ [33] ++ (csText d ++ [13, 10]) := by
  rw [encode_eq, wireLines, List.flatten_cons, List.flatten_append, flatten_dataLines, identLine_eq]
  simp [endLine]

theorem isWord_eq (w : Nat) : Py.isWord w = P1Spec.isWord w := rfl

theorem range_of_isWord (w : Nat) (h : isWord w = true) : 48 ≤ w ∧ w ≤ 122 := by
  simp only [isWord, isAlpha, isDigit, Bool.or_eq_true, Bool.and_eq_true, decide_eq_true_eq,
    beq_iff_eq] at h
  omega

theorem okc_of_word (w : Nat) (h : isWord w = true) : okc w := by
  have := range_of_isWord w h
  unfold okc; omega

theorem okc_of_dataChar (c : Nat) (h : ReadoutDesc.dataChar c = true) : okc c := by
  simp only [ReadoutDesc.dataChar, isPrintable, Bool.and_eq_true, decide_eq_true_eq,
    bne_iff_ne, ne_eq] at h
  unfold okc; omega

theorem printable_of_dataChar (c : Nat) (h : ReadoutDesc.dataChar c = true) :
    Py.isPrintable c = true := by
  simp only [ReadoutDesc.dataChar, isPrintable, Bool.and_eq_true, decide_eq_true_eq,
    bne_iff_ne, ne_eq] at h
  simp only [Py.isPrintable, Bool.and_eq_true, decide_eq_true_eq]; omega

theorem okc_hexDigit (lower : Bool) (n : Nat) (h : n < 16) :
    okc ((if lower then hexLower else hexUpper) n) := by
  cases lower
  · show okc (hexUpper n)
    unfold okc hexUpper; split <;> omega
  · show okc (hexLower n)
    unfold okc hexLower; split <;> omega

theorem okc_hex4 (lower : Bool) (v : Nat) : ∀ c ∈ hex4 lower v, okc c := by
  intro c hc
  simp only [hex4, List.mem_cons, List.not_mem_nil, or_false] at hc
  rcases hc with rfl | rfl | rfl | rfl <;> exact okc_hexDigit lower _ (Nat.mod_lt _ (by decide))

theorem okc_csText (d : ReadoutDesc) : ∀ c ∈ csText d, okc c := by
  intro c hc
  unfold csText at hc
  split at hc
  · exact okc_hex4 _ _ c hc
  · simp at hc

theorem wf_man (d : ReadoutDesc) (h : d.WF) : ∃ a b c, d.man = [a, b, c] ∧
    isUpper a = true ∧ isUpper b = true ∧ isAlpha c = true := by
  have h1 := h.1
  split at h1
  · rename_i a b c hm
    simp only [Bool.and_eq_true] at h1
    exact ⟨a, b, c, hm, h1.1.1, h1.1.2, h1.2⟩
  · cases h1

theorem wf_ident (d : ReadoutDesc) (h : d.WF) : d.ident.length ≤ 16 ∧
    (∀ c ∈ d.ident, ReadoutDesc.dataChar c = true) ∧
    (∀ w rest, d.ident = 92 :: w :: rest → isWord w = false) ∧ d.ident.getLast? ≠ some 32 := by
  have h1 := h.2.2.2.1
  simp only [ReadoutDesc.identOk, Bool.and_eq_true, decide_eq_true_eq, List.all_eq_true,
    bne_iff_ne] at h1
  refine ⟨h1.1.1.1, h1.1.1.2, ?_, h1.2⟩
  intro w rest e
  have h2 := h1.1.2
  rw [e] at h2
  simpa using h2

theorem okc_identBody (d : ReadoutDesc) (h : d.WF) : ∀ c ∈ identBody d, okc c := by
  obtain ⟨a, b, c, hm, ha, hb, hc⟩ := wf_man d h
  have hbaud := h.2.1
  have hescs := h.2.2.1
  obtain ⟨_, hid, _⟩ := wf_ident d h
  intro x hx
  simp only [identBody, hm, List.mem_append, List.mem_cons, List.not_mem_nil, or_false,
    List.mem_flatMap] at hx
  simp only [isUpper, isAlpha, isDigit, Bool.or_eq_true, Bool.and_eq_true, decide_eq_true_eq]
    at ha hb hc hbaud
  rcases hx with (((hx | hx | hx) | hx) | ⟨w, hw, hx⟩) | hx
  · unfold okc; omega
  · unfold okc; omega
  · unfold okc; omega
  · unfold okc; omega
  · have := okc_of_word w (List.all_eq_true.mp hescs w hw)
    rcases hx with rfl | rfl
    · unfold okc; omega
    · exact this
  · exact okc_of_dataChar x (hid x hx)

theorem okc_dataLine (d : ReadoutDesc) (h : d.WF) : ∀ l ∈ d.lines, ∀ c ∈ l, okc c := by
  intro l hl c hc
  exact okc_of_dataChar c (List.all_eq_true.mp (h.2.2.2.2 l hl) c hc)

theorem payload_chars (d : ReadoutDesc) (h : d.WF) : ∀ c ∈ d.payload, okc c ∨ c = 13 ∨ c = 10 := by
  intro c hc
  simp only [ReadoutDesc.payload, List.mem_flatMap, List.mem_append, List.mem_cons,
    List.not_mem_nil, or_false] at hc
  obtain ⟨l, hl, hc⟩ := hc
  rcases hc with hc | hc | hc
  · exact Or.inl (okc_dataLine d h l hl c hc)
  · exact Or.inr (Or.inl hc)
  · exact Or.inr (Or.inr hc)

theorem isLine_crlf (pre : List Nat) (h : 10 ∉ pre) : IsLine (pre ++ [13, 10]) :=
  ⟨pre ++ [13], by simp, by simpa using h⟩

theorem isLine_identLine (d : ReadoutDesc) (h : d.WF) : IsLine d.identLine := by
  have := isLine_crlf (47 :: identBody d) (by simpa using fun m => (okc_identBody d h 10 m).1 rfl)
  simpa [identLine_eq] using this

theorem isLine_endLine (d : ReadoutDesc) : IsLine (endLine d) :=
  isLine_crlf (33 :: csText d) (by simpa using fun m => (okc_csText d 10 m).1 rfl)

def IsDataLine (l : List Nat) : Prop := ∃ pre, l = pre ++ [13, 10] ∧ ∀ c ∈ pre, okc c

theorem isDataLine_of_mem (d : ReadoutDesc) (h : d.WF) : ∀ l ∈ dataLines d, IsDataLine l := by
  intro l hl
  simp only [dataLines, List.mem_map] at hl
  obtain ⟨l0, h0, rfl⟩ := hl
  exact ⟨l0, rfl, okc_dataLine d h l0 h0⟩

theorem IsDataLine.isLine {l : List Nat} (h : IsDataLine l) : IsLine l := by
  obtain ⟨pre, rfl, hp⟩ := h
  exact isLine_crlf pre fun m => (hp 10 m).1 rfl

theorem IsDataLine.no_start {l : List Nat} (h : IsDataLine l) : 47 ∉ l := by
  obtain ⟨pre, rfl, hp⟩ := h
  simp only [List.mem_append, List.mem_cons, List.not_mem_nil, or_false, not_or]
  exact ⟨fun m => (hp 47 m).2.1 rfl, by decide⟩

theorem IsDataLine.no_end {l : List Nat} (h : IsDataLine l) : 33 ∉ l := by
  obtain ⟨pre, rfl, hp⟩ := h
  simp only [List.mem_append, List.mem_cons, List.not_mem_nil, or_false, not_or]
  exact ⟨fun m => (hp 33 m).2.2.1 rfl, by decide⟩

theorem IsDataLine.head {l : List Nat} (h : IsDataLine l) : ∃ c t, l = c :: t ∧ c ≠ 33 := by
  obtain ⟨pre, rfl, hp⟩ := h
  cases pre with
  | nil => exact ⟨13, [10], rfl, by decide⟩
  | cons c t => exact ⟨c, t ++ [13, 10], rfl, (hp c List.mem_cons_self).2.2.1⟩

theorem endLine_no_start (d : ReadoutDesc) : 47 ∉ endLine d := by
  simp only [endLine, List.mem_append, List.mem_cons, List.not_mem_nil, or_false, not_or]
  exact ⟨by decide, fun m => (okc_csText d 47 m).2.1 rfl, by decide⟩

end Amshan.P1
