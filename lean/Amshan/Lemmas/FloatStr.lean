import Amshan.Model.Float
import Amshan.Lemmas.PyList
/-
  `float(str)` on the plain decimal sub-syntax (optional sign, digits, optionally '.' and digits): the model's
  `Flt.ofStr` of such a text is `Flt.ofRat` of (all digits read as one integer) / 10^(number of fraction digits)
  — the link between the text a meter transmits and the rational whose rounding FloatBound*.lean bounds.
  No Mathlib here.
-/
namespace Amshan.Flt
open Amshan Amshan.Py

def AllDigits (ds : List Nat) : Prop := ∀ c ∈ ds, Py.isDigit c = true

theorem digit_not_space (c : Nat) (h : Py.isDigit c = true) : Py.isStrSpace c = false :=
  P1L.isStrSpace_of_gt (by have := (P1L.isDigit_iff c).mp h; omega)

theorem digit_not_cspace (c : Nat) (h : Py.isDigit c = true) : Py.isBytesSpace c = false :=
  P1L.not_isBytesSpace_of_not_isStrSpace c (digit_not_space c h)

theorem dot_not_space : Py.isStrSpace 46 = false := by decide

theorem digitsVal_foldl (ds : List Nat) (a : Nat) :
    ds.foldl (fun a c => a * 10 + (c - 48)) a = a * 10 ^ ds.length + digitsVal ds := by
  unfold digitsVal
  induction ds generalizing a with
  | nil => simp
  | cons d ds ih =>
    simp only [List.foldl_cons, List.length_cons]
    rw [ih (a * 10 + (d - 48)), ih (0 * 10 + (d - 48))]
    rw [Nat.pow_succ]
    simp only [Nat.zero_mul, Nat.zero_add, Nat.add_mul, Nat.add_assoc, Nat.mul_assoc, Nat.mul_comm 10]

@[simp] theorem digitsVal_nil : digitsVal [] = 0 := rfl

theorem digitsVal_cons (d : Nat) (ds : List Nat) :
    digitsVal (d :: ds) = (d - 48) * 10 ^ ds.length + digitsVal ds := by
  have := digitsVal_foldl ds (0 * 10 + (d - 48))
  simpa [digitsVal] using this

theorem digitsVal_append (xs ys : List Nat) :
    digitsVal (xs ++ ys) = digitsVal xs * 10 ^ ys.length + digitsVal ys := by
  unfold digitsVal
  rw [List.foldl_append]
  exact digitsVal_foldl ys _

theorem digitsVal_snoc (ds : List Nat) (d : Nat) : digitsVal (ds ++ [d]) = digitsVal ds * 10 + (d - 48) := by
  rw [digitsVal_append]; simp [digitsVal]

theorem digitsVal_zeros (n : Nat) (ds : List Nat) : digitsVal (List.replicate n 48 ++ ds) = digitsVal ds := by
  induction n with
  | zero => simp
  | succ n ih => rw [List.replicate_succ, List.cons_append, digitsVal_cons, ih]; simp

theorem digitsVal_lt (ds : List Nat) (h : AllDigits ds) : digitsVal ds < 10 ^ ds.length := by
  induction ds with
  | nil => simp
  | cons d ds ih =>
    have hd := (P1L.isDigit_iff d).mp (h d (List.mem_cons_self ..))
    have := ih (fun c hc => h c (List.mem_cons_of_mem _ hc))
    rw [digitsVal_cons, List.length_cons, Nat.pow_succ]
    have h9 : (d - 48) * 10 ^ ds.length ≤ 9 * 10 ^ ds.length := Nat.mul_le_mul_right _ (by omega)
    omega

theorem takeDigitsU_digits (ds rest acc : List Nat) (u : Bool) (hds : AllDigits ds)
    (hrest : rest = [] ∨ ∃ c r, rest = c :: r ∧ Py.isDigit c = false ∧ c ≠ 95) :
    takeDigitsU (ds ++ rest) acc u = (acc.reverse ++ ds, rest) := by
  induction ds generalizing acc u with
  | nil =>
    rcases hrest with rfl | ⟨c, r, rfl, hc, h95⟩
    · simp [takeDigitsU]
    · have : (c == 95) = false := by simpa using h95
      simp [takeDigitsU, hc, this]
  | cons d ds ih =>
    have hd : Py.isDigit d = true := hds d (List.mem_cons_self ..)
    have step : takeDigitsU (d :: (ds ++ rest)) acc u = takeDigitsU (ds ++ rest) (d :: acc) false := by
      simp only [takeDigitsU, hd, if_true]
    rw [List.cons_append, step, ih _ _ (fun c hc => hds c (List.mem_cons_of_mem _ hc))]
    simp

theorem strip_none (s : List Nat) (h : ∀ c ∈ s, Py.isStrSpace c = false) : Py.strip s = s :=
  P1L.stripWith_none h

theorem stripC_none (s : List Nat) (h : ∀ c ∈ s, Py.isBytesSpace c = false) : Py.stripC s = s :=
  P1L.stripWith_none h

theorem not_cspace_of_not_space (c : Nat) (h : Py.isStrSpace c = false) : Py.isBytesSpace c = false :=
  P1L.not_isBytesSpace_of_not_isStrSpace c h

/-- the optional fraction of `ofStr`: a point and digits -/
def fracPart (rest : List Nat) : List Nat × List Nat × Bool :=
  match rest with
  | 46 :: r => let (f, r') := takeDigitsU r [] false; (f, r', true)
  | _ => ([], rest, false)

/-- the optional exponent of `ofStr`: 'e' or 'E', a sign, digits; `none` when the digits are missing -/
def expPart (rest : List Nat) : Option (Int × List Nat) :=
  match rest with
  | c :: r =>
    if c == 101 || c == 69 then
      let (eneg, r) := match r with
        | 43 :: r' => (false, r')
        | 45 :: r' => (true, r')
        | _ => (false, r)
      let (ed, r') := takeDigitsU r [] false
      if ed.isEmpty then none
      else some ((if eneg then -(digitsVal ed : Int) else (digitsVal ed : Int)), r')
    else some (0, rest)
  | [] => some (0, [])

/-- the last step of `ofStr`: the float for digits `ip`, `fp` and decimal exponent `ex` -/
def mkFloat (neg : Bool) (ip fp : List Nat) (ex : Int) : Except PyExc F :=
  let mant := digitsVal (ip ++ fp)
  let e10 : Int := ex - (fp.length : Int)
  if mant = 0 then .ok (.fin neg 0 0)
  else if e10 > 400 then .ok (.inf neg)
  else if e10 + ((ip ++ fp).length : Int) < -400 then .ok (.fin neg 0 0)
  else if e10 ≥ 0 then .ok (ofRat neg (mant * 10 ^ e10.toNat) 1)
  else .ok (ofRat neg mant (10 ^ (-e10).toNat))

/-- `ofStr` after white space and sign have been removed: the model's text with its stages named
    (`ofStr_signed` checks by `rfl` that it is the same function) -/
def ofStrBody (neg : Bool) (s : List Nat) : Except PyExc F :=
  let low := lowerAscii s
  if low == [105, 110, 102] || low == [105, 110, 102, 105, 110, 105, 116, 121] then .ok (.inf neg)
  else if low == [110, 97, 110] then .ok .nan
  else
    let (ip, rest) := takeDigitsU s [] false
    let (fp, rest, hadDot) := fracPart rest
    if ip.isEmpty && fp.isEmpty then .error .valueError
    else if hadDot && false then .error .valueError
    else
      match expPart rest with
      | none => .error .valueError
      | some (ex, rest) => if !rest.isEmpty then .error .valueError else mkFloat neg ip fp ex

/-- the optional sign of a numeric text: none, '+' or '-' -/
def signChars : Option Bool → List Nat
  | none => []
  | some false => [43]
  | some true => [45]

theorem ofStr_signed (sign : Option Bool) (t : List Nat) (c : Nat) (r : List Nat) (ht : t = c :: r)
    (hc : c ≠ 43 ∧ c ≠ 45) (hsp : ∀ x ∈ t, Py.isBytesSpace x = false) :
    ofStr (signChars sign ++ t) = ofStrBody (sign == some true) t := by
  have hst : Py.stripC (signChars sign ++ t) = signChars sign ++ t :=
    stripC_none _ (List.forall_mem_append.mpr ⟨by rcases sign with _ | _ | _ <;> decide, hsp⟩)
  unfold ofStr
  rw [hst]
  rcases sign with _ | _ | _
  · subst ht
    dsimp only [signChars, List.nil_append]
    split
    · rename_i heq; injection heq with h' _; exact absurd h' hc.1
    · rename_i heq; injection heq with h' _; exact absurd h' hc.2
    · rfl
  · rfl
  · rfl

theorem low_not_word (c : Nat) (r : List Nat) (hc : c ≤ 57) (x : Nat) (w : List Nat) (hx : 97 ≤ x) :
    (lowerAscii (c :: r) == x :: w) = false := by
  have h1 : Py.toLowerAscii c = c := by
    have : Py.isUpper c = false := by simp [Py.isUpper]; omega
    simp [Py.toLowerAscii, this]
  have h2 : (c == x) = false := by simp; omega
  simp [lowerAscii, h1, h2]

theorem takeDigitsU_all (ds : List Nat) (h : AllDigits ds) : takeDigitsU ds [] false = (ds, []) := by
  have := takeDigitsU_digits ds [] [] false h (Or.inl rfl)
  simpa using this

theorem fracPart_dot (fp : List Nat) (h : AllDigits fp) : fracPart (46 :: fp) = (fp, [], true) := by
  rw [fracPart, takeDigitsU_all fp h]

theorem expPart_nil : expPart [] = some (0, []) := rfl

theorem mkFloat_zero (neg : Bool) (ip fp : List Nat) :
    mkFloat neg ip fp 0 = .ok (ofRat neg (digitsVal (ip ++ fp)) (10 ^ fp.length)) := by
  unfold mkFloat
  dsimp only
  by_cases hm : digitsVal (ip ++ fp) = 0
  · rw [if_pos hm, hm]; simp [ofRat]
  · rw [if_neg hm, if_neg (by omega), if_neg (by rw [List.length_append]; omega)]
    by_cases h0 : fp.length = 0
    · rw [h0]; simp
    · rw [if_neg (by omega), show (-((0 : Int) - (fp.length : Int))).toNat = fp.length by omega]

/-- a decimal text: digits `ip`, then nothing (and `fp` is empty) or a point and digits `fp`; not both empty -/
structure Decimal (text ip fp : List Nat) : Prop where
  hip : AllDigits ip
  hfp : AllDigits fp
  hne : ip ≠ [] ∨ fp ≠ []
  htext : text = ip ++ 46 :: fp ∨ (text = ip ∧ fp = [])

/-- `46 ≤ c ≤ 57`: a digit or the point, so neither a sign (43, 45) nor the first letter of `inf` / `nan` -/
theorem Decimal.head {text ip fp : List Nat} (h : Decimal text ip fp) :
    (∃ c r, text = c :: r ∧ 46 ≤ c ∧ c ≤ 57) ∧ ∀ x ∈ text, Py.isBytesSpace x = false := by
  obtain ⟨hip, hfp, hne, rfl | ⟨rfl, rfl⟩⟩ := h
  · refine ⟨?_, List.forall_mem_append.mpr ⟨fun x hx => digit_not_cspace x (hip x hx),
      List.forall_mem_cons.mpr ⟨by decide, fun x hx => digit_not_cspace x (hfp x hx)⟩⟩⟩
    cases ip with
    | nil => exact ⟨46, fp, rfl, by omega⟩
    | cons d ds => exact ⟨d, _, rfl, by have := (P1L.isDigit_iff d).mp (hip d (List.mem_cons_self ..)); omega⟩
  · refine ⟨?_, fun x hx => digit_not_cspace x (hip x hx)⟩
    cases text with
    | nil => simp at hne
    | cons d ds => exact ⟨d, ds, rfl, by have := (P1L.isDigit_iff d).mp (hip d (List.mem_cons_self ..)); omega⟩

theorem Decimal.scan {text ip fp : List Nat} (h : Decimal text ip fp) :
    ∃ rest dot, takeDigitsU text [] false = (ip, rest) ∧ fracPart rest = (fp, [], dot) := by
  obtain ⟨hip, hfp, _, rfl | ⟨rfl, rfl⟩⟩ := h
  · refine ⟨46 :: fp, true, ?_, fracPart_dot fp hfp⟩
    simpa using takeDigitsU_digits ip (46 :: fp) [] false hip (Or.inr ⟨46, fp, rfl, by decide, by omega⟩)
  · exact ⟨[], false, takeDigitsU_all text hip, rfl⟩

theorem ofStrBody_decimal (neg : Bool) {text ip fp : List Nat} (h : Decimal text ip fp) :
    ofStrBody neg text = .ok (ofRat neg (digitsVal (ip ++ fp)) (10 ^ fp.length)) := by
  obtain ⟨⟨c, r, hs, _, hc⟩, _⟩ := h.head
  have hl1 := low_not_word c r hc 105 [110, 102] (by omega)
  have hl2 := low_not_word c r hc 105 [110, 102, 105, 110, 105, 116, 121] (by omega)
  have hl3 := low_not_word c r hc 110 [97, 110] (by omega)
  rw [← hs] at hl1 hl2 hl3
  obtain ⟨rest, dot, h1, h2⟩ := h.scan
  have he : (ip.isEmpty && fp.isEmpty) = false := by
    rw [Bool.and_eq_false_iff, List.isEmpty_eq_false_iff, List.isEmpty_eq_false_iff]
    exact h.hne
  unfold ofStrBody
  simp only [hl1, hl2, hl3, h1, h2, he, expPart_nil, Bool.or_self, Bool.and_false, List.isEmpty_nil, Bool.not_true,
    Bool.false_eq_true, if_false]
  exact mkFloat_zero neg ip fp

theorem ofStr_decimal_signed (sign : Option Bool) {text ip fp : List Nat} (h : Decimal text ip fp) :
    ofStr (signChars sign ++ text) = .ok (ofRat (sign == some true) (digitsVal (ip ++ fp)) (10 ^ fp.length)) := by
  obtain ⟨⟨c, r, hs, hc, _⟩, hsp⟩ := h.head
  rw [ofStr_signed sign _ c r hs (by omega) hsp, ofStrBody_decimal _ h]

/-- **`float(text)` of a decimal with a point.** For digits `ip` and `fp` (not both empty; any number of
    digits) and an optional sign, `float(sign ip "." fp)` is the double
    nearest to `(ip fp read as one integer) / 10^(number of fraction digits)`. Leading zeros are allowed. -/
theorem ofStr_decimal (sign : Option Bool) (ip fp : List Nat) (hip : AllDigits ip) (hfp : AllDigits fp)
    (hne : ip ≠ [] ∨ fp ≠ []) :
    ofStr (signChars sign ++ (ip ++ 46 :: fp)) =
      .ok (ofRat (sign == some true) (digitsVal (ip ++ fp)) (10 ^ fp.length)) :=
  ofStr_decimal_signed sign ⟨hip, hfp, hne, Or.inl rfl⟩

/-- `float()` on ASCII text skips C white space only: the separators 0x1C..0x1F, which `str.strip()`
    removes, make it fail (CPython: `float('\x1f281.882')`, `float('1.5\x1c')` raise ValueError) -/
example : ofStr [0x1f, 50, 56, 49, 46, 56, 56, 50] = .error .valueError ∧
    ofStr [49, 46, 53, 0x1c] = .error .valueError ∧
    ofStr [0x0b, 32, 49, 46, 53, 0x0c, 10] = ofStr [49, 46, 53] ∧
    (∃ x, ofStr [49, 46, 53] = .ok x) := by
  refine ⟨by decide, by decide, by decide, ⟨_, ofStr_decimal none [49] [53] (by simp [AllDigits, Py.isDigit]) (by simp [AllDigits, Py.isDigit]) (by simp)⟩⟩

end Amshan.Flt
