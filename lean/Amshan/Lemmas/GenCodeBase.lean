import Amshan.Generated
import Amshan.Lemmas.Basic
/-
  What all Lemmas/GenCode*.lean share.  Each proves the definitions of one Amshan/GeneratedCode*.lean (the mechanical
  translation of Python function bodies, harness/pytrans.py; one file per property group, so that a change to one
  function breaks only the proofs of the properties it belongs to) equal to the hand-written model.  The generated files are
  printed anew from the current source on every check, so the proofs must be SEMANTIC: a behaviour-preserving rewrite
  of the source prints another term, and the same proof text has to go through; a behaviour-changing one has to break it.
  * No proof mentions the shape of a generated term.  Loops are compared with the model step by step
    (`foldl_step_eq`, `forLoop_congr`): the generated step is found by unification and never written down.
  * What remains after unfolding both sides is closed by `gen_decide`.  The data is split beforehand only as far as
    `grind` needs it (it knows an option as `none` / `some`, not through `isSome` / `getD`): the branches of the code
    are its business, and every split made beforehand multiplies its work.
-/
namespace Amshan.GenLemmas

/-- Used as `rw [foldl_step_eq (g := model step)]`: `f` is found by unification, the pointwise equality is left as a goal. -/
theorem foldl_step_eq {α β : Type} {f g : β → α → β} (l : List α) (init : β) (h : ∀ s a, f s a = g s a) :
    l.foldl f init = l.foldl g init := by
  have : f = g := funext fun s => funext (h s)
  rw [this]

/-- the same, through a projection `p` of the state of the generated fold (when the source keeps more variables
    alive across iterations than the model has) -/
theorem foldl_proj_eq {α β γ : Type} (p : β → γ) {f : β → α → β} {g : γ → α → γ} (l : List α) (init : β)
    (h : ∀ s a, p (f s a) = g (p s) a) : p (l.foldl f init) = l.foldl g (p init) :=
  (List.foldl_hom p fun s a => (h s a).symm).symm

/-! ### masks and shifts as arithmetic (for sources that write `% 2048` for `& 0x7FF`, `// 4096` for `>> 12`, ...) -/

theorem mask1_and (x : Nat) : 1 &&& x = x % 2 := by rw [Nat.and_comm, and_mask1]
theorem mask4_and (x : Nat) : 15 &&& x = x % 16 := by rw [Nat.and_comm, and_mask4]
theorem mask8_and (x : Nat) : 255 &&& x = x % 256 := by rw [Nat.and_comm, and_mask8]
theorem mask11_and (x : Nat) : 2047 &&& x = x % 2048 := by rw [Nat.and_comm, and_mask11]
theorem mask16_and (x : Nat) : 65535 &&& x = x % 65536 := by rw [Nat.and_comm, and_mask16]

/-- Closes what is left of an equivalence once the generated definition and the model are unfolded and the data
    is split into cases: a statement about `if`s, Booleans, options, list lookups, `max`/`min`, bit operators and
    linear arithmetic.  `grind` first (it goes through the branches of both sides by itself); then with masks and
    shifts turned into `%`, `/`, `*`; then after `simp`; `omega` last, for what is arithmetic only.  Which of them
    is needed depends on how the source spells the computation, which is why it is a search. -/
macro "gen_decide" : tactic =>
  `(tactic| first
    | done
    | grind
    | (simp only [and_mask1, and_mask4, and_mask8, and_mask11, and_mask16, mask1_and, mask4_and, mask8_and,
        mask11_and, mask16_and, Nat.shiftRight_eq_div_pow, Nat.shiftLeft_eq, Nat.reducePow] at * <;> grind)
    | (simp <;> grind)
    | omega)

/-- what the models' `Buf.size` counts is the length of the Python bytearray -/
theorem pos_add_length_drop {l : List Nat} {p : Nat} (h : p ≤ l.length) : p + (l.drop p).length = l.length := by
  rw [List.length_drop]; omega

def iter {γ : Type} (g : γ → γ) : Nat → γ → γ
  | 0, c => c
  | n + 1, c => iter g n (g c)

theorem foldl_range'_const {γ : Type} (g : γ → γ) (a n : Nat) (c : γ) :
    (List.range' a n).foldl (fun s _ => g s) c = iter g n c := by
  induction n generalizing a c with
  | zero => rfl
  | succ n ih => simp [List.range'_succ, ih, iter]


end Amshan.GenLemmas
