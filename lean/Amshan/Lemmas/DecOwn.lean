import Amshan.Lemmas.AidonRT
import Amshan.Lemmas.DecTotal
/-
  The concrete decoder table on a fresh AutoDecoder, and which of the six binary decoders reject
  what: by the first octet of the notification body (each body grammar wants its tag first, and
  after a well-formed LLC/APDU header a frame decoder is its body decoder), and the Kaifa grammar on
  a Kamstrup list.
-/
namespace Amshan.DecOwnBody
open Amshan.Cosem Amshan.Dec

/-- the decoder raises (any exception class; AutoDecoder catches them all, `caught_all`) -/
def Rej (o : Out) : Prop := ∃ e, ofOut o = .error e

theorem rej_construct : Rej .construct := ⟨_, rfl⟩
theorem rej_exc (e : PyExc) : Rej (.exc e) := ⟨e, rfl⟩

theorem rej_toOut_soft : Rej (Res.toOut (.soft : Res Dict)) := rej_construct

end Amshan.DecOwnBody

namespace Amshan.DecOwnMore
open Amshan.Cosem Amshan.DecOwnBody

theorem rej_of_construct {o : Out} (h : o = .construct) : Rej o := h ▸ rej_construct

theorem rej_of_exc {o : Out} {e : PyExc} (h : o = .exc e) : Rej o := h ▸ rej_exc e

end Amshan.DecOwnMore

namespace Amshan.DecOwn
open Amshan.Gen Amshan.Cosem Amshan.Dec Amshan.Auto Amshan.ListSpec Amshan.CosemDT Amshan.DecOwnBody

theorem ofOut_construct : ofOut .construct = .error .constructSoft := rfl

theorem ofOut_dict (d : Dict) : ofOut (.dict d) = .ok d := rfl

/-- `ht` is `DecTotal.decoders_eq`, `pre` is given as `[_, …, _]` and `hpre` as the tuple of rejections -/
theorem fresh {pre post : List (Decoder (List Nat) Dict)} {d : Decoder (List Nat) Dict}
    (ht : decoders = pre ++ d :: post) {p : List Nat} {v : Dict} (hpre : AllRej p pre) (hv : d p = .ok v) :
    stepPayload none p = .ok (some pre.length, some v) := by
  unfold stepPayload
  rw [ht]
  exact step_fresh_append DecTotal.caught_all hpre hv

theorem decodersFor_eq (m : Message) : decodersFor m =
    match m with
    | .p1 r => decoders.set 3 fun _ => P1Parse.decodeReadout r
    | _ => decoders := by
  cases m <;> rfl

theorem caughtMessage_eq : caughtBy caughtMessage = caught := by
  have : caughtMessage = caughtPayload := by decide
  unfold caught
  rw [this]

theorem stepMessage_eq (prev : Option Nat) (m : Message) (p : List Nat) (hp : m.payload = some p) (hne : p ≠ []) :
    stepMessage prev m = step (decodersFor m) caught prev p := by
  unfold stepMessage
  simp only [hp, List.isEmpty_eq_false_iff.2 hne, caughtMessage_eq]
  rfl

theorem stepMessage_p1 (prev : Option Nat) (r : P1.Readout) (hne : r.payload ≠ []) :
    stepMessage prev (.p1 r) = step (decoders.set 3 fun _ => P1Parse.decodeReadout r) caught prev r.payload := by
  rw [stepMessage_eq prev (.p1 r) r.payload rfl hne, decodersFor_eq]

theorem encAidonBody_head (es : List AidonElem) : (encAidonBody es).head? = some 1 := rfl
theorem encKaifaValues_head (vs : List KVal) : (encKaifaValues vs).head? = some 2 := rfl
theorem encKaifaObis_head (es : List (List Nat × KVal)) : (encKaifaObis es).head? = some 2 := rfl
theorem encKamList_head (l : KamList) : (encKamList l).head? = some 2 := rfl

theorem aidon_body_rej (s : List Nat) (h : s.head? ≠ some 1) : Rej (Aidon.decodeBody s) := by
  unfold Aidon.decodeBody
  rw [AidonRT.notificationBody_wants s h]
  exact rej_construct

theorem kaifa_body_rej (s : List Nat) (h : s.head? ≠ some 2) : Rej (Kaifa.decodeBody s) := by
  unfold Kaifa.decodeBody Kaifa.notificationBody
  rw [KaifaRT.wants_select KaifaRT.obisBody_wants KaifaRT.valueBody_wants s h]
  exact rej_construct

theorem kamstrup_body_rej (s : List Nat) (h : s.head? ≠ some 2) : Rej (Kamstrup.decodeBody s) := by
  unfold Kamstrup.decodeBody
  rw [KamstrupRT.notificationBody_wants s h]
  exact rej_construct

theorem aidon_frame_rej_head (hd : Header) (hh : hd.WF) (s : List Nat) (h : s.head? ≠ some 1) :
    Rej (Aidon.decodeFrame (encHeader hd ++ s)) := by
  rw [AidonRT.decodeFrame_eq_body hd hh]
  exact aidon_body_rej s h

theorem aidon_body_soft (n : Nat) (hn : n ≠ 0) (r : List Nat) (hr : r.head? ≠ some 2) :
    Aidon.notificationBody (1 :: n :: r) = .soft := by
  obtain ⟨m, rfl⟩ : ∃ m, n = m + 1 := ⟨n - 1, by omega⟩
  simp only [Aidon.notificationBody, tArray_eq, constByte_cons, bind_ok, u8_cons, Aidon.elements,
    AidonRT.element_wants r hr]
  rfl

theorem kaifa_obisBody_soft (n : Nat) (hn : n ≠ 0) (r : List Nat) (hr : r.head? ≠ some 9) :
    Kaifa.obisBody (2 :: n :: r) = .soft := by
  simp only [Kaifa.obisBody, tStructure_eq, constByte_cons, bind_ok, u8_cons,
    KaifaRT.kaifa_isGreedy.stop _ (KaifaRT.obisElement_wants r hr), List.length_nil, Nat.mul_zero, hn, if_false]

theorem mem_dropWhile_of_not (p : Nat → Bool) (b : Nat) (hp : p b = false) (l : List Nat) (h : b ∈ l) :
    b ∈ l.dropWhile p := by
  rw [← List.takeWhile_append_dropWhile (p := p) (l := l)] at h
  refine (List.mem_append.1 h).resolve_left fun ht => ?_
  rw [List.all_eq_true.1 List.all_takeWhile b ht] at hp
  cases hp

/-- an OBIS octet string with an octet ≥ 0x80 is neither a date-time nor ASCII text -/
theorem field_obis_soft (o tail : List Nat) (ho : o.length = 6) (hb : ∃ b ∈ o, 128 ≤ b) :
    field ([9, 6] ++ o ++ tail) = .soft := by
  obtain ⟨b, hbo, hb128⟩ := hb
  have hs : b ∈ Py.rstripWith (· == 0) o := by
    unfold Py.rstripWith
    rw [List.mem_reverse]
    exact mem_dropWhile_of_not _ b (by simp only [beq_eq_false_iff_ne, ne_eq]; omega) _ (List.mem_reverse.2 hbo)
  have ha : isAsciiOctets (Py.rstripWith (· == 0) o) = false :=
    List.all_eq_false.2 ⟨b, hs, by simp only [decide_eq_true_eq]; omega⟩
  simp only [List.cons_append, List.nil_append]
  rw [field_octet, dateTime_soft_of_ne 6 _ (by decide)]
  simp only [octetStringText, u8_cons, bind_ok, takeN_append 6 o tail ho, ha]
  rfl

/-- the positional grammar on the start of a Kamstrup list (length octet ≥ 2): the version string is a
    field, any null-data padding after it is one more field, and what follows (`Y`, the first OBIS
    octet string) is none; with padding and length octet 2 the list ends before it -/
theorem kaifa_valueBody_kam (n : Nat) (hn : 2 ≤ n) (ver : List Nat) (k : Nat) (Y : List Nat)
    (hver : printable ver) (hY : field Y = .soft) (h0 : Y.head? ≠ some 0) :
    Kaifa.valueBody (2 :: n :: ([10, ver.length] ++ ver ++ (List.replicate k 0 ++ Y))) = .soft ∨
    ∃ r, Kaifa.valueBody (2 :: n :: ([10, ver.length] ++ ver ++ (List.replicate k 0 ++ Y))) =
      .ok (.values [.str ver, .null]) r := by
  obtain ⟨m, rfl⟩ : ∃ m, n = m + 2 := ⟨n - 2, by omega⟩
  simp only [Kaifa.valueBody, tStructure_eq, constByte_cons, bind_ok, u8_cons, Kaifa.fields,
    field_visible_enc ver hver]
  cases k with
  | zero =>
    simp only [List.replicate_zero, List.nil_append, hY]
    exact .inl rfl
  | succ k =>
    rw [List.replicate_succ, List.cons_append, field_null, nullData_replicate k _ h0, bind_ok]
    cases m with
    | zero => exact .inr ⟨_, rfl⟩
    | succ m => simp only [Kaifa.fields, hY]; exact .inl rfl

theorem kaifa_nb_kam (l : KamList) (h : l.WF) (hlen : 2 ≤ l.lenOctet)
    (hfirst : ∃ e rest, l.elems = e :: rest ∧ ∃ b ∈ e.obis, 128 ≤ b) :
    Kaifa.notificationBody (encKamList l) = .soft ∨
      ∃ r, Kaifa.notificationBody (encKamList l) = .ok (.values [.str l.version, .null]) r := by
  obtain ⟨e, rest, hel, hb⟩ := hfirst
  obtain ⟨_, hver, _, hwf⟩ := h
  have ho : e.obis.length = 6 := (hwf e (by rw [hel]; exact List.mem_cons_self)).1.1
  have hY : field (l.elems.flatMap KamstrupRT.encElem) = .soft := by
    rw [hel, List.flatMap_cons, KamstrupRT.encElem, encObis, List.append_assoc, List.append_assoc]
    exact field_obis_soft e.obis _ ho hb
  rw [KamstrupRT.encKamList_eq, List.append_assoc]
  unfold Kaifa.notificationBody Kaifa.select
  rw [kaifa_obisBody_soft l.lenOctet (by omega) _ (by simp)]
  rcases kaifa_valueBody_kam l.lenOctet hlen l.version l.versionPad _ hver hY (KamstrupRT.noNull_flatMap _)
    with h2 | ⟨r, h2⟩
  · rw [h2]; exact .inl rfl
  · rw [h2]; exact .inr ⟨r, rfl⟩

/-- a two-element positional list is no documented Kaifa list: IndexError (AttributeError when the
    APDU date-time is null) -/
theorem normValues_two (apdu : Option ApduDT) (a b : FieldVal) :
    ∃ e, Kaifa.normValues apdu [a, b] = .error e := by
  have hn : (kaifaFieldLists.find? (fun l => l.length == 2)).getD [] = [] := by decide
  have hl : [a, b].length = 2 := rfl
  unfold Kaifa.normValues
  simp only [hl, hn]
  match apdu with
  | none => exact ⟨_, rfl⟩
  | some (.byte _) => exact ⟨_, rfl⟩
  | some (.dt _) => exact ⟨_, rfl⟩

theorem kaifa_body_rej_kam (l : KamList) (h : l.WF) (hlen : 2 ≤ l.lenOctet)
    (hfirst : ∃ e rest, l.elems = e :: rest ∧ ∃ b ∈ e.obis, 128 ≤ b) : Rej (Kaifa.decodeBody (encKamList l)) := by
  unfold Kaifa.decodeBody
  rcases kaifa_nb_kam l h hlen hfirst with hs | ⟨r, hs⟩
  · rw [hs]; exact rej_construct
  · obtain ⟨e, he⟩ := normValues_two none (.str l.version) .null
    rw [hs]; simp only [he]; exact rej_exc e

theorem kaifa_frame_rej_kam (hd : Header) (hh : hd.WF) (l : KamList) (h : l.WF) (hlen : 2 ≤ l.lenOctet)
    (hfirst : ∃ e rest, l.elems = e :: rest ∧ ∃ b ∈ e.obis, 128 ≤ b) :
    Rej (Kaifa.decodeFrame (encHeader hd ++ encKamList l)) := by
  rw [KaifaRT.decodeFrame_header hd hh]
  rcases kaifa_nb_kam l h hlen hfirst with hs | ⟨r, hs⟩
  · rw [hs]; exact rej_construct
  · obtain ⟨e, he⟩ := normValues_two (some (clockOf hd.clock)) (.str l.version) .null
    rw [hs]; simp only [he]; exact rej_exc e

end Amshan.DecOwn
