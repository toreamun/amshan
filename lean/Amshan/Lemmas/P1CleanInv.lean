import Amshan.Lemmas.P1Handle
import Amshan.Lemmas.P1ReadoutComplete
/-
  C05: the invariant tying the reader state to the rest of a clean stream, for every chunking.
  `Trace raw hunt Ls outs` : feeding the complete lines `Ls` to a reader in state `(raw, hunt)`
  delivers exactly `outs`, never trips the size guard, and in hunt mode every line starts a readout.
-/
namespace Amshan.P1
open Amshan.Gen Amshan.P1Spec

theorem handleLine_identLine (d : ReadoutDesc) (h : d.WF) :
    handleLine [] true d.identLine = .ok (d.identLine, false, none) := by
  have hA : Py.isAscii d.identLine = true := by
    simpa [Py.isAscii] using P1L.identLine_ascii d h
  have hI := P1L.isIdentLine_identLine d h
  rw [identLine_eq, List.cons_append] at hA hI ⊢
  rw [handleLine_hunt, hA, hI]
  rfl

def Trace : List Nat → Bool → List (List Nat) → List Readout → Prop
  | raw, hunt, [], outs => outs = [] ∧ (hunt = true → raw = []) ∧ raw.length ≤ p1Guard
  | raw, hunt, l :: Ls, outs =>
    IsLine l ∧ (hunt = true → raw = [] ∧ ∃ t, l = 47 :: t) ∧ raw.length + l.length ≤ p1Guard ∧
    ∃ raw1 hunt1 ro outs', handleLine raw hunt l = .ok (raw1, hunt1, ro) ∧
      outs = ro.toList ++ outs' ∧ Trace raw1 hunt1 Ls outs'

theorem trace_data {tl : List Nat} (hell : IsLine (33 :: tl)) {Lc : List (List Nat)}
    {outs : List Readout} (hc : Trace [] true Lc outs) (ro : Readout)
    (Ld : List (List Nat)) : ∀ (raw : List Nat), (∀ l ∈ Ld, IsDataLine l) →
    raw.length + Ld.flatten.length + (33 :: tl).length ≤ p1Guard →
    Readout.make (raw ++ Ld.flatten ++ 33 :: tl) = .ok ro →
    Trace raw false (Ld ++ (33 :: tl) :: Lc) (ro :: outs) := by
  induction Ld with
  | nil =>
    intro raw _ hsz hm
    simp only [List.flatten_nil, List.append_nil, List.length_nil, Nat.add_zero] at hsz hm
    exact ⟨hell, (fun h => (by cases h)), hsz, [], true, some ro, outs, handleLine_end _ _ _ hm, rfl, hc⟩
  | cons l Ld ih =>
    intro raw hd hsz hm
    have hl := hd l (by simp)
    obtain ⟨c, t, hlc, hc33⟩ := hl.head
    simp only [List.flatten_cons, List.length_append] at hsz
    refine ⟨hl.isLine, (fun h => (by cases h)), by omega, raw ++ l, false, none, ro :: outs, ?_, rfl, ?_⟩
    · rw [hlc]; exact handleLine_data _ _ _ hc33
    · apply ih (raw ++ l) (fun l' m => hd l' (List.mem_cons_of_mem _ m))
      · simp only [List.length_append]; omega
      · rw [← hm]; simp

theorem trace_readout (d : ReadoutDesc) (h : d.WF) (hsz : d.encode.length ≤ p1Guard)
    (Lc : List (List Nat)) (outs : List Readout) (hc : Trace [] true Lc outs) :
    Trace [] true (wireLines d ++ Lc) (expectedReadout d :: outs) := by
  have henc := encode_eq d
  simp only [wireLines, List.flatten_cons, List.flatten_append, List.flatten_nil, List.append_nil]
    at henc
  have hsz' : d.identLine.length + (dataLines d).flatten.length + (endLine d).length ≤ p1Guard := by
    rw [henc] at hsz; simp only [List.length_append] at hsz; omega
  refine ⟨isLine_identLine d h, fun _ => ⟨rfl, _, identLine_eq d⟩, by simp only [List.length_nil]; omega,
    d.identLine, false, none, expectedReadout d :: outs, handleLine_identLine d h, rfl, ?_⟩
  have := trace_data (isLine_endLine d) hc (expectedReadout d)
    (dataLines d) d.identLine (isDataLine_of_mem d h) hsz'
    (by rw [← P1L.make_encode d h, henc]; simp [endLine])
  simpa [endLine] using this

theorem trace_stream (ds : List ReadoutDesc) (hds : ∀ d ∈ ds, d.WF ∧ d.encode.length ≤ p1Guard) :
    Trace [] true (ds.flatMap wireLines) (ds.map expectedReadout) := by
  induction ds with
  | nil => exact ⟨rfl, fun _ => rfl, by simp⟩
  | cons d ds ih =>
    simp only [List.flatMap_cons, List.map_cons]
    exact trace_readout d (hds d (by simp)).1 (hds d (by simp)).2 _ _
      (ih (fun d' m => hds d' (List.mem_cons_of_mem _ m)))

theorem flatten_stream (ds : List ReadoutDesc) :
    (ds.flatMap wireLines).flatten = ds.flatMap ReadoutDesc.encode := by
  induction ds with
  | nil => rfl
  | cons d ds ih => simp only [List.flatMap_cons, List.flatten_append, ih, encode_eq]

theorem trace_head (raw : List Nat) (Ls : List (List Nat)) (outs : List Readout)
    (h : Trace raw true Ls outs) : Ls.flatten = [] ∨ ∃ t, Ls.flatten = 47 :: t := by
  cases Ls with
  | nil => left; rfl
  | cons l Ls =>
    obtain ⟨_, hh, _⟩ := h
    obtain ⟨_, t, ht⟩ := hh rfl
    right; exact ⟨t ++ Ls.flatten, by simp [ht]⟩

theorem trace_hunt_raw (raw : List Nat) (Ls : List (List Nat)) (outs : List Readout)
    (h : Trace raw true Ls outs) : raw = [] := by
  cases Ls with
  | nil => exact h.2.1 rfl
  | cons l Ls => exact (h.2.1 rfl).1

theorem trace_isLine (Ls : List (List Nat)) : ∀ raw hunt outs, Trace raw hunt Ls outs →
    ∀ l ∈ Ls, IsLine l := by
  induction Ls with
  | nil => intro _ _ _ _ l hl; cases hl
  | cons l Ls ih =>
    intro raw hunt outs h l' hl'
    obtain ⟨h1, _, _, raw1, hunt1, ro, outs', _, _, ht⟩ := h
    rcases List.mem_cons.mp hl' with rfl | hl'
    · exact h1
    · exact ih _ _ _ ht l' hl'

theorem trace_split (L1 L2 : List (List Nat)) : ∀ raw hunt outs, Trace raw hunt (L1 ++ L2) outs →
    ∃ raw' hunt' o1 o2, Feed raw hunt L1 raw' hunt' o1 ∧ outs = o1 ++ o2 ∧ Trace raw' hunt' L2 o2 := by
  induction L1 with
  | nil => intro raw hunt outs h; exact ⟨raw, hunt, [], outs, .nil _ _, rfl, h⟩
  | cons l L1 ih =>
    intro raw hunt outs h
    obtain ⟨hl, _, _, raw1, hunt1, ro, outs', hh, rfl, ht⟩ := h
    obtain ⟨raw', hunt', o1, o2, hf, rfl, ht'⟩ := ih raw1 hunt1 outs' ht
    exact ⟨raw', hunt', _, o2, .cons hl hh hf, by simp, ht'⟩

theorem trim_prefix (X Y F : List Nat) (h : X ++ Y = F) (hF : F = [] ∨ ∃ t, F = 47 :: t) :
    X.dropWhile notStart = X := by
  cases X with
  | nil => rfl
  | cons x X' =>
    rcases hF with hF | ⟨t, hF⟩
    · rw [hF] at h; cases h
    · rw [hF] at h
      simp only [List.cons_append, List.cons.injEq] at h
      rw [h.1]
      simp [List.dropWhile, notStart, p1Start]

theorem trace_bound (raw : List Nat) (hunt : Bool) (Ls : List (List Nat)) (outs : List Readout)
    (h : Trace raw hunt Ls outs) (inp rest : List Nat) (hn : 10 ∉ inp)
    (he : inp ++ rest = Ls.flatten) : inp.length + raw.length ≤ p1Guard := by
  cases Ls with
  | nil =>
    simp only [List.flatten_nil, List.append_eq_nil_iff] at he
    rw [he.1]; simp only [List.length_nil, Nat.zero_add]; exact h.2.2
  | cons l Ls =>
    obtain ⟨hl, _, hsz, _⟩ := h
    obtain ⟨q, hq, _⟩ := partial_prefix inp rest l Ls.flatten hn hl.lf_mem (by simpa using he)
    rw [hq, List.length_append] at hsz
    omega

/-- mid-stream: the unread partial line followed by the rest of the stream is a sequence of
    complete lines with a trace from the current state -/
def InvC (r : Reader) (rest : List Nat) (outs : List Readout) : Prop :=
  ∃ Ls, Trace r.raw r.hunt Ls outs ∧ 10 ∉ r.buf.inp ∧ r.buf.inp ++ rest = Ls.flatten

/-- `InvC`, or hunting through bytes without a start character (`t`) that precede a clean stream -/
def Inv (r : Reader) (rest : List Nat) (outs : List Readout) : Prop :=
  (∃ t Ls, r.hunt = true ∧ r.raw = [] ∧ 47 ∉ r.buf.inp ∧ 47 ∉ t ∧ rest = t ++ Ls.flatten ∧
    Trace [] true Ls outs) ∨ InvC r rest outs

theorem loop_trace (Ls : List (List Nat)) (raw : List Nat) (hunt : Bool) (outs : List Readout)
    (X rest' : List Nat) (c : Nat) (out : List Readout)
    (ht : Trace raw hunt Ls outs) (he : X ++ rest' = Ls.flatten) :
    ∃ r' o1 o2, loop ⟨c, X⟩ raw hunt out = .ok (r', out ++ o1) ∧ outs = o1 ++ o2 ∧
      InvC r' rest' o2 := by
  have hL := trace_isLine Ls raw hunt outs ht
  obtain ⟨L1, L2, p, rfl, rfl, hp, hr⟩ := prefix_lines Ls X rest' hL he
  obtain ⟨raw', hunt', o1, o2, hf, ho, ht'⟩ := trace_split L1 L2 raw hunt outs ht
  exact ⟨_, o1, o2, loop_feed hf c p out hp, ho, L2, ht', hp, hr⟩

theorem loop_hunt (t : List Nat) (Ls : List (List Nat)) (outs : List Readout) (chunk rest' : List Nat)
    (ht : 47 ∉ t) (he : chunk ++ rest' = t ++ Ls.flatten) (htr : Trace [] true Ls outs) :
    ∃ r' o1 o2, loop ⟨0, chunk.dropWhile notStart⟩ [] true [] = .ok (r', o1) ∧ outs = o1 ++ o2 ∧
      Inv r' rest' o2 := by
  rcases List.append_eq_append_iff.mp he with ⟨a', h1, h2⟩ | ⟨c', h1, h2⟩
  · have hc : 47 ∉ chunk := fun m => ht (by rw [h1]; exact List.mem_append_left _ m)
    rw [P1L.dropWhile_all _ _ (List.all_eq_true.mpr (notStart_of_not_mem hc)),
      loop_nolf _ _ _ _ _ (by simp)]
    refine ⟨_, [], outs, rfl, rfl, Or.inl ⟨a', Ls, rfl, rfl, by simp, ?_, h2, htr⟩⟩
    exact fun m => ht (by rw [h1]; exact List.mem_append_right _ m)
  · rw [h1, List.dropWhile_append_of_pos (notStart_of_not_mem ht),
      trim_prefix c' rest' _ h2.symm (trace_head _ _ _ htr)]
    obtain ⟨r', o1, o2, h3, h4, h5⟩ := loop_trace Ls [] true outs c' rest' 0 [] htr h2.symm
    exact ⟨r', o1, o2, by simpa using h3, h4, Or.inr h5⟩

theorem inv_step (r : Reader) (chunk rest' : List Nat) (outs : List Readout)
    (h : Inv r (chunk ++ rest') outs) :
    ∃ r' o1 o2, read r chunk = .ok (r', o1) ∧ outs = o1 ++ o2 ∧ Inv r' rest' o2 := by
  rcases h with ⟨t, Ls, hh, hr, hi, ht, he, htr⟩ | ⟨Ls, htr, hn, he⟩
  · by_cases hov : r.buf.inp.length + r.raw.length > p1Guard
    · rw [read_over r chunk hov]
      exact loop_hunt t Ls outs chunk rest' ht he htr
    · rw [read_hunt r chunk (by omega) hh, List.dropWhile_append_of_pos (notStart_of_not_mem hi), hr]
      exact loop_hunt t Ls outs chunk rest' ht he htr
  · have hb := trace_bound _ _ _ _ htr _ _ hn he
    rw [← List.append_assoc] at he
    have key : read r chunk = loop ⟨0, r.buf.inp ++ chunk⟩ r.raw r.hunt [] := by
      cases hh : r.hunt with
      | true =>
        rw [hh] at htr
        rw [read_hunt r chunk hb hh, trim_prefix _ rest' _ he (trace_head _ _ _ htr)]
      | false => rw [read_nohunt r chunk hb hh]
    obtain ⟨r', o1, o2, h3, h4, h5⟩ := loop_trace Ls r.raw r.hunt outs _ rest' 0 [] htr he
    exact ⟨r', o1, o2, by rw [key]; simpa using h3, h4, Or.inr h5⟩

theorem trace_nolf (raw : List Nat) (hunt : Bool) (Ls : List (List Nat)) (outs : List Readout)
    (h : Trace raw hunt Ls outs) (hn : 10 ∉ Ls.flatten) : outs = [] := by
  cases Ls with
  | nil => exact h.1
  | cons l Ls =>
    obtain ⟨body, rfl, _⟩ := h.1
    exact absurd (by simp) hn

theorem inv_nil (r : Reader) (outs : List Readout) (h : Inv r [] outs) : outs = [] := by
  rcases h with ⟨t, Ls, _, _, _, _, he, htr⟩ | ⟨Ls, htr, hn, he⟩
  · exact trace_nolf _ _ _ _ htr (by rw [(List.append_eq_nil_iff.mp he.symm).2]; simp)
  · exact trace_nolf _ _ _ _ htr (by rw [← he, List.append_nil]; exact hn)

theorem readAll_inv (chunks : List (List Nat)) : ∀ (r : Reader) (outs : List Readout),
    Inv r chunks.flatten outs →
    ∃ r' os, readAll r chunks = .ok (r', os) ∧ os.flatten = outs := by
  induction chunks with
  | nil =>
    intro r outs h
    exact ⟨r, [], rfl, (inv_nil r outs h).symm⟩
  | cons ch chs ih =>
    intro r outs h
    rw [List.flatten_cons] at h
    obtain ⟨r1, o1, o2, h1, h2, h3⟩ := inv_step r ch _ outs h
    obtain ⟨r2, os, h4, h5⟩ := ih r1 o2 h3
    refine ⟨r2, o1 :: os, ?_, ?_⟩
    · simp only [readAll, h1, h4]
    · rw [List.flatten_cons, h5, h2]

/-- **C05 from any hunting state**: nothing collected, no start character pending or in `t` -/
theorem readAll_clean (r : Reader) (hh : r.hunt = true) (hr : r.raw = []) (hi : 47 ∉ r.buf.inp)
    (t : List Nat) (ht : 47 ∉ t) (ds : List ReadoutDesc)
    (hds : ∀ d ∈ ds, d.WF ∧ d.encode.length ≤ p1Guard) (chunks : List (List Nat))
    (hch : chunks.flatten = t ++ ds.flatMap ReadoutDesc.encode) :
    ∃ r' outs, readAll r chunks = .ok (r', outs) ∧ outs.flatten = ds.map expectedReadout := by
  apply readAll_inv chunks r
  rw [hch]
  exact Or.inl ⟨t, ds.flatMap wireLines, hh, hr, hi, ht, by rw [flatten_stream], trace_stream ds hds⟩

end Amshan.P1
