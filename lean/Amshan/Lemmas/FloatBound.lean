import Amshan.Lemmas.FloatBoundOfRat
/-
  `mul`, `toInt` and `roundDigits` of the binary64 model in terms of rational values, and the one error analysis
  behind C08/C09/C11: `float(x)·c` for an exactly represented `c` is two roundings to 53 bits, so within 2^-51 of
  `x·c`.  Below 2^50 that is less than 1/2, which is why `round(v·10^-s, s)` finds `v / 10^s` again and why
  `int(float(x)·1000)` is the floor of the exact product or one less.
-/
namespace Amshan.Flt

theorem mul_fin_eq (a b : Bool) (m1 m2 : Nat) (e1 e2 : Int) :
    ∃ N D : Nat, mul (.fin a m1 e1) (.fin b m2 e2) = ofRat (a != b) N D ∧ 0 < D ∧
      (N : ℚ) / D = (m1 : ℚ) * (2 : ℚ) ^ e1 * ((m2 : ℚ) * (2 : ℚ) ^ e2) ∧
      (0 < m1 → 0 < m2 → 0 < N) := by
  have hsplit : (m1 : ℚ) * (2 : ℚ) ^ e1 * ((m2 : ℚ) * (2 : ℚ) ^ e2)
      = (m1 : ℚ) * m2 * (2 : ℚ) ^ (e1 + e2) := by
    rw [zpow_add₀ two_ne_zero]; ring
  rw [hsplit]
  rcases zpow_split (e1 + e2) with ⟨h, hz⟩ | ⟨h, hz⟩ <;> rw [hz]
  · exact ⟨m1 * m2 * 2 ^ (e1 + e2).toNat, 1, by simp [mul, h], Nat.one_pos, by push_cast; ring,
      fun h1 h2 => by positivity⟩
  · exact ⟨m1 * m2, 2 ^ (-(e1 + e2)).toNat, by simp [mul, h], Nat.pow_pos (by decide), by push_cast; ring,
      fun h1 h2 => by positivity⟩

theorem mul_near {x y : F} (hx : Normal x) (hy : Normal y)
    (hlo : (1 : ℚ) / 2 ^ 1021 ≤ val x * val y) (hhi : val x * val y ≤ 2 ^ 1021) :
    Normal (mul x y) ∧ |val (mul x y) - val x * val y| ≤ val x * val y / 2 ^ 53 := by
  obtain ⟨m1, e1, rfl, h1⟩ := hx
  obtain ⟨m2, e2, rfl, h2⟩ := hy
  obtain ⟨N, D, heq, hD, hND, hN⟩ := mul_fin_eq false false m1 m2 e1 e2
  simp only [val_fin_false, ← hND] at hlo hhi ⊢
  rw [heq]
  exact ofRat_near N D (hN (by omega) (by omega)) hD hlo hhi

theorem mul_comm (x y : F) : mul x y = mul y x := by
  cases x <;> cases y <;> simp [mul, Bool.xor_comm, Nat.mul_comm, Int.add_comm]

theorem ofRat_zero (neg : Bool) (den : Nat) : ofRat neg 0 den = .fin neg 0 0 := by simp [ofRat]

theorem mul_zero_fin (a b : Bool) (m : Nat) (e1 e2 : Int) :
    mul (.fin a 0 e1) (.fin b m e2) = .fin (a != b) 0 0 := by
  simp only [mul, Nat.zero_mul]
  split <;> exact ofRat_zero _ _

theorem toInt_floor (m : Nat) (e : Int) :
    ∃ a : Nat, toInt (.fin false m e) = .ok (a : Int) ∧
      (a : ℚ) ≤ (m : ℚ) * (2 : ℚ) ^ e ∧ (m : ℚ) * (2 : ℚ) ^ e < (a : ℚ) + 1 := by
  rcases zpow_split e with ⟨h, hz⟩ | ⟨h, hz⟩ <;> rw [hz]
  · exact ⟨m * 2 ^ e.toNat, by simp [toInt, h], by rw [Nat.cast_mul], by rw [Nat.cast_mul]; exact lt_add_one _⟩
  · rw [mul_one_div]
    exact ⟨m / 2 ^ (-e).toNat, by simp [toInt, h], natdiv_floor m _ (Nat.pow_pos (by decide))⟩

theorem ofInt_natCast (v : Nat) : ofInt (v : Int) = ofRat false v 1 := by
  have h : decide ((v : Int) < 0) = false := decide_eq_false (by omega)
  simp [ofInt, h]

theorem roundDigits_fin (neg : Bool) (m : Nat) (e : Int) (n : Nat) :
    roundDigits (.fin neg m e) n =
      ofRat neg (roundHalfEven (scaledDiv (m * 10 ^ n) 1 (-e)).1 (scaledDiv (m * 10 ^ n) 1 (-e)).2)
        (10 ^ n) := rfl

theorem roundDigits_near (m : Nat) (e : Int) (n : Nat) :
    ∃ r : Nat, roundDigits (.fin false m e) n = ofRat false r (10 ^ n) ∧
      |(r : ℚ) - (m : ℚ) * (2 : ℚ) ^ e * (10 ^ n : Nat)| ≤ 1 / 2 := by
  refine ⟨_, roundDigits_fin false m e n, ?_⟩
  have h := sd_round (m * 10 ^ n) 1 (-e) Nat.one_pos
  have hsd : sdVal (m * 10 ^ n) 1 (-e) = (m : ℚ) * (2 : ℚ) ^ e * (10 ^ n : Nat) := by
    unfold sdVal; push_cast; rw [neg_neg]; ring
  rwa [hsd] at h

/-- `hlo` is asked of a non-zero `num` only: a zero factor gives zero, so the analyses below need no case of
    their own for it. The ranges are 2^±1020 and not 2^±1021: what `mul` rounds is the product with the already
    rounded factor, which may lie a binade further out than `num/den · c` (`near_range`). -/
theorem mul_ofRat_ofNat (num den c : Nat) (hd : 0 < den) (hc : c < 2 ^ 53)
    (hlo : 0 < num → (1 : ℚ) / 2 ^ 1020 ≤ (num : ℚ) / den) (hx : (num : ℚ) / den ≤ 2 ^ 1020)
    (hP : (num : ℚ) / den * c ≤ 2 ^ 1020) :
    ∃ (m : Nat) (e : Int), mul (ofRat false num den) (ofNat c) = .fin false m e ∧
      |(m : ℚ) * (2 : ℚ) ^ e - (num : ℚ) / den * c| ≤ (num : ℚ) / den * c / 2 ^ 51 := by
  rcases Nat.eq_zero_or_pos num with rfl | hn
  · obtain ⟨mk, ek, hk⟩ : ∃ m e, ofNat c = .fin false m e := by
      rcases Nat.eq_zero_or_pos c with rfl | hc0
      · exact ⟨0, 0, ofRat_zero _ _⟩
      · obtain ⟨⟨m, e, h, _⟩, _⟩ := ofNat_exact c hc0 hc
        exact ⟨m, e, h⟩
    exact ⟨0, 0, by rw [ofRat_zero, hk, mul_zero_fin]; rfl, by simp⟩
  have hx0 : (0 : ℚ) ≤ (num : ℚ) / den := by positivity
  have hr := near_range (hlo hn) hx (near_self hx0)
  obtain ⟨hY, hYx⟩ := ofRat_near num den hn hd hr.1 hr.2
  rcases Nat.eq_zero_or_pos c with rfl | hc0
  · obtain ⟨my, ey, hy, _⟩ := hY
    exact ⟨0, 0, by rw [hy, ofNat, ofRat_zero, mul_comm, mul_zero_fin]; rfl, by simp⟩
  obtain ⟨hK, hKc⟩ := ofNat_exact c hc0 hc
  have hw := near_scale (c : ℚ) (Nat.cast_nonneg c) hYx
  have hr2 := near_range (le_trans (hlo hn) (le_mul_of_one_le_right hx0 (by exact_mod_cast hc0))) hP hw
  obtain ⟨⟨m, e, hm, _⟩, hz⟩ := mul_near hY hK (by rw [hKc]; exact hr2.1) (by rw [hKc]; exact hr2.2)
  rw [hKc, hm, val_fin_false] at hz
  exact ⟨m, e, hm, near_trans (by positivity) hw hz⟩

/-- **`int(float(num/den) * c)`** for an exactly represented `c`, where the exact product `num·c/den` is
    `a/b` with `a < 2^50`: the two roundings move the product by less than `a/b · 2^-51 < 1/b`, so not past the
    next integer above and by less than one below. The result is `⌊num·c/den⌋` or one less. -/
theorem toInt_mul_ofRat (num den c a b : Nat) (hd : 0 < den) (hc0 : 0 < c) (hc : c < 2 ^ 53)
    (hb : 0 < b) (hE : num * c * b = a * den) (ha : a < 2 ^ 50)
    (hlo : 0 < num → (1 : ℚ) / 2 ^ 1020 ≤ (num : ℚ) / den) :
    toInt (mul (ofRat false num den) (ofNat c)) = .ok ((num * c / den : Nat) : Int) ∨
    toInt (mul (ofRat false num den) (ofNat c)) = .ok (((num * c / den : Nat) : Int) - 1) := by
  have hc1 : (1 : ℚ) ≤ c := by exact_mod_cast hc0
  have hb1 : (1 : ℚ) ≤ b := by exact_mod_cast hb
  have hx : (num : ℚ) / den ≤ (num : ℚ) / den * c := le_mul_of_one_le_right (by positivity) hc1
  have haq : (a : ℚ) < 2 ^ 50 := by exact_mod_cast ha
  have hP : (num : ℚ) / den * c = ((num * c : Nat) : ℚ) / den := by rw [div_mul_eq_mul_div, Nat.cast_mul]
  have hPa : ((num * c : Nat) : ℚ) / den < 2 ^ 50 := by
    rw [cross_div hd hb hE]; exact lt_of_le_of_lt (div_le_self (by positivity) hb1) haq
  have hPhi : (num : ℚ) / den * c ≤ 2 ^ 1020 := by
    -- by monotonicity: 2^1020 is not evaluated, see `near_range`
    rw [hP]; exact le_trans hPa.le (pow_le_pow_right₀ (by norm_num) (by norm_num))
  obtain ⟨m, e, hZ, hZP⟩ := mul_ofRat_ofNat num den c hd hc hlo (le_trans hx hPhi) hPhi
  obtain ⟨z, hz, hz1, hz2⟩ := toInt_floor m e
  rw [hP] at hZP
  rw [hZ, hz]
  rcases floor_or_pred hz1 hz2 (natdiv_floor (num * c) den hd).1
    (sub_lt_of_abs_sub_lt_left (lt_trans (near_lt_half hPa hZP) (by norm_num)))
    (lt_of_le_of_lt (sub_le_iff_le_add'.mp (abs_le.mp hZP).2) (frac_lt_succ_floor hd hb hE (by omega)))
    with h | h
  · left; rw [h]
  · right; rw [← h, Nat.cast_add_one, add_sub_cancel_right]

/-- **`round(v * 10**-s, s)` is the double nearest to `v / 10^s`.** The product is within `v·2^-51 < 1/2` of
    `v/10^s · 10^s = v` after scaling back, so the decimal rounding finds `v` again; `v < 2^50` is what that
    needs, and `s ≤ 255` keeps `10^-s` in the normal range (`decimal_ge`). -/
theorem scaled_correct_gen (v s : Nat) (hv : v < 2 ^ 50) (hs : s ≤ 255) :
    roundDigits (mul (ofInt v) (tenPowNeg s)) s = ofRat false v (10 ^ s) := by
  have hT1 : (1 : ℚ) ≤ ((10 ^ s : Nat) : ℚ) := by exact_mod_cast Nat.one_le_pow _ _ (by norm_num)
  have hT0 : (0 : ℚ) < ((10 ^ s : Nat) : ℚ) := lt_of_lt_of_le one_pos hT1
  have hTi : ((1 : Nat) : ℚ) / ((10 ^ s : Nat) : ℚ) ≤ 1 := by
    rw [Nat.cast_one]; exact (div_le_one hT0).mpr hT1
  have hvb : (v : ℚ) < 2 ^ 50 := by exact_mod_cast hv
  have hP : ((1 : Nat) : ℚ) / ((10 ^ s : Nat) : ℚ) * v * ((10 ^ s : Nat) : ℚ) = v := by
    rw [Nat.cast_one, one_div, mul_right_comm, inv_mul_cancel₀ hT0.ne', one_mul]
  obtain ⟨m, e, hZ, hZv⟩ := mul_ofRat_ofNat 1 (10 ^ s) v (by positivity) (by omega) (fun h => decimal_ge h hs)
    (le_trans hTi (one_le_pow₀ one_le_two))
    (by rw [← one_mul ((2 : ℚ) ^ 1020)]
        exact mul_le_mul hTi (le_trans hvb.le (pow_le_pow_right₀ (by norm_num) (by norm_num)))
          (by positivity) one_pos.le)
  obtain ⟨r, hr, hrv⟩ := roundDigits_near m e s
  have hW := near_scale ((10 ^ s : Nat) : ℚ) hT0.le hZv
  rw [hP] at hW
  rw [ofInt_natCast, ← ofNat, tenPowNeg, mul_comm, hZ, hr, nat_eq_of_near hrv (near_lt_half hvb hW)]

/-- m·1000/10^k as a fraction of powers of ten (natural subtraction: one of the two exponents is 0) -/
theorem kilo_cross (m k : Nat) : m * 1000 * 10 ^ (k - 3) = m * 10 ^ (3 - k) * 10 ^ k := by
  rw [Nat.mul_assoc, Nat.mul_assoc, show 1000 = 10 ^ 3 by norm_num, ← pow_add, ← pow_add]
  congr 2; omega

/-- `toInt_mul_ofRat` at `c = 1000`, `num/den = m/10^k`, `a/b = m·10^(3-k) / 10^(k-3)`; `k ≤ 255` from `decimal_ge` -/
theorem kilo_unit_bound_any (m k : Nat) (hk : k ≤ 255) (hE : m * 10 ^ (3 - k) < 2 ^ 50) :
    toInt (mul (ofRat false m (10 ^ k)) (ofNat 1000)) = .ok ((m * 1000 / 10 ^ k : Nat) : Int) ∨
    toInt (mul (ofRat false m (10 ^ k)) (ofNat 1000)) = .ok (((m * 1000 / 10 ^ k : Nat) : Int) - 1) :=
  toInt_mul_ofRat m (10 ^ k) 1000 _ (10 ^ (k - 3)) (by positivity) (by norm_num) (by norm_num)
    (by positivity) (kilo_cross m k) hE (fun h => decimal_ge h hk)

end Amshan.Flt
