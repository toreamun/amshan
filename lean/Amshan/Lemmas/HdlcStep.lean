import Amshan.Model.HdlcDefs
import Amshan.Model.HdlcExc
/-
  One normal form of the reader's step.  `_read_next` has six outcomes; `effect` names the four that
  concern a frame in progress, `unesc` is what `_append_to_frame` makes of an absorbed octet, and
  `run_preserves` is the induction every invariant of the core goes through.
-/
namespace Amshan.Hdlc
open Amshan.Gen Amshan.HdlcSpec

theorem flagOctet_eq_flag : flagOctet = flag := rfl
theorem escOctet_eq_esc : escOctet = esc := rfl
theorem escXor_eq : escXor = 0x20 := rfl
theorem maxFrameLen_eq : maxFrameLen = 2047 := rfl

/-- what an octet does to a frame in progress -/
inductive Effect where
  | restart   -- a flag directly after the opening flag
  | drop      -- a flag after an incomplete header or an abort sequence: hunt
  | deliver   -- a closing flag
  | absorb    -- the octet is handed to `_append_to_frame`

/-- `_handle_flag_sequence` takes the flag for the end of an abort sequence -/
def abortSeq (cfg : Cfg) (raw : List Nat) : Bool :=
  cfg.abort && decide (raw.length > 1) && (raw.getLast? == some escOctet)

theorem abortSeq_eq_true {cfg : Cfg} {raw : List Nat} :
    abortSeq cfg raw = true ↔ cfg.abort = true ∧ raw.length > 1 ∧ raw.getLast? = some escOctet := by
  simp only [abortSeq, Bool.and_eq_true, decide_eq_true_eq, beq_iff_eq, and_assoc]

theorem abortSeq_eq_false {cfg : Cfg} {raw : List Nat}
    (h : cfg.abort = true → raw.getLast? ≠ some escOctet) : abortSeq cfg raw = false := by
  rw [← Bool.not_eq_true, abortSeq_eq_true]
  exact fun ⟨ha, _, hl⟩ => h ha hl

/-- the decision chain of `_handle_flag_sequence`; any other octet is absorbed -/
def effect (cfg : Cfg) (raw : List Nat) (f : Frame) (x : Nat) : Effect :=
  if x = flagOctet then
    if f.len = 0 then .restart
    else if f.hcs.isNone || abortSeq cfg raw then .drop
    else if cfg.stuffing || f.isExpectedLength then .deliver
    else .absorb
  else .absorb

theorem readNext_eq (cfg : Cfg) (c : Core) (x : Nat) :
    readNext cfg c x =
      match c.frame with
      | none => (if x = flagOctet then startFrame c else c, .cont)
      | some f =>
        match effect cfg c.raw f x with
        | .restart => ({ c with raw := [], unescapeNext := false }, .cont)
        | .drop => (gotoHunt c, .hunt)
        | .deliver => (c, .complete)
        | .absorb => maxLenCheck (appendToFrame cfg c f x) := by
  unfold readNext handleFlag effect abortSeq
  -- `dsimp only` first: `split`/`rw` on the unreduced `match c.frame` is slow
  cases c.frame with
  | none => dsimp only; by_cases hx : x = flagOctet <;> simp only [hx, if_true, if_false]
  | some f =>
    dsimp only
    by_cases hx : x = flagOctet
    · rw [if_pos hx, if_pos hx]
      by_cases h0 : f.len = 0
      · rw [if_pos h0, if_pos h0]
      rw [if_neg h0, if_neg h0]
      cases f.hcs.isNone
      case true => rfl
      cases cfg.abort && decide (c.raw.length > 1) && (c.raw.getLast? == some escOctet)
      case true => rfl
      cases cfg.stuffing
      case true => rfl
      cases f.isExpectedLength <;> subst hx <;> rfl
    · rw [if_neg hx, if_neg hx]; rfl

theorem effect_spec (cfg : Cfg) (raw : List Nat) (f : Frame) (x : Nat) :
    match effect cfg raw f x with
    | .restart => x = flagOctet ∧ f.len = 0
    | .drop => x = flagOctet ∧ f.len ≠ 0 ∧ (f.hcs.isNone || abortSeq cfg raw) = true
    | .deliver => x = flagOctet ∧ f.len ≠ 0 ∧ f.hcs.isSome = true ∧ abortSeq cfg raw = false
    | .absorb => x = flagOctet →
        f.len ≠ 0 ∧ f.hcs.isSome = true ∧ abortSeq cfg raw = false ∧
        cfg.stuffing = false ∧ f.isExpectedLength = false := by
  unfold effect
  by_cases hx : x = flagOctet
  · rw [if_pos hx]
    by_cases h0 : f.len = 0
    · rw [if_pos h0]; exact ⟨hx, h0⟩
    rw [if_neg h0]
    by_cases h1 : (f.hcs.isNone || abortSeq cfg raw) = true
    · rw [if_pos h1]; exact ⟨hx, h0, h1⟩
    rw [if_neg h1]
    rw [Bool.not_eq_true, Bool.or_eq_false_iff, Option.isNone_eq_false_iff] at h1
    by_cases h2 : (cfg.stuffing || f.isExpectedLength) = true
    · rw [if_pos h2]; exact ⟨hx, h0, h1⟩
    rw [if_neg h2]
    rw [Bool.not_eq_true, Bool.or_eq_false_iff] at h2
    exact fun _ => ⟨h0, h1.1, h1.2, h2⟩
  · rw [if_neg hx]; exact fun h => absurd h hx

theorem effect_of_ne {cfg : Cfg} {raw : List Nat} {f : Frame} {x : Nat} (hx : x ≠ flagOctet) :
    effect cfg raw f x = .absorb := if_neg hx

theorem effect_flag_empty {cfg : Cfg} {raw : List Nat} {f : Frame} (h0 : f.len = 0) :
    effect cfg raw f flagOctet = .restart := by
  rw [effect, if_pos rfl, if_pos h0]

theorem effect_flag_drop {cfg : Cfg} {raw : List Nat} {f : Frame} (h0 : f.len ≠ 0)
    (h : (f.hcs.isNone || abortSeq cfg raw) = true) : effect cfg raw f flagOctet = .drop := by
  rw [effect, if_pos rfl, if_neg h0, if_pos h]

theorem effect_flag_pass {cfg : Cfg} {raw : List Nat} {f : Frame} (h0 : f.len ≠ 0)
    (hh : f.hcs.isSome = true) (ha : abortSeq cfg raw = false) :
    effect cfg raw f flagOctet =
      if cfg.stuffing || f.isExpectedLength then .deliver else .absorb := by
  have h : ¬ (f.hcs.isNone || abortSeq cfg raw) = true := by
    rw [Bool.not_eq_true, Bool.or_eq_false_iff, Option.isNone_eq_false_iff]; exact ⟨hh, ha⟩
  rw [effect, if_pos rfl, if_neg h0, if_neg h]

theorem effect_restart {cfg : Cfg} {raw : List Nat} {f : Frame} {x : Nat}
    (h : effect cfg raw f x = .restart) : x = flagOctet ∧ f.len = 0 := by
  have := effect_spec cfg raw f x; rwa [h] at this

theorem effect_deliver {cfg : Cfg} {raw : List Nat} {f : Frame} {x : Nat}
    (h : effect cfg raw f x = .deliver) :
    x = flagOctet ∧ f.len ≠ 0 ∧ f.hcs.isSome = true ∧ abortSeq cfg raw = false := by
  have := effect_spec cfg raw f x; rwa [h] at this

theorem effect_absorb_flag {cfg : Cfg} {raw : List Nat} {f : Frame}
    (h : effect cfg raw f flagOctet = .absorb) :
    f.len ≠ 0 ∧ f.hcs.isSome = true ∧ abortSeq cfg raw = false ∧
    cfg.stuffing = false ∧ f.isExpectedLength = false := by
  have := effect_spec cfg raw f flagOctet; rw [h] at this; exact this rfl

/-- the un-stuffing automaton inside `_append_to_frame`: the octets appended to the frame (one or
    none) and the next value of `_unescape_next` -/
def unesc (stuffing u : Bool) (x : Nat) : List Nat × Bool :=
  if stuffing then
    if u then ([x ^^^ escXor], false)
    else if x = escOctet then ([], true)
    else ([x], false)
  else ([x], u)

theorem appendToFrame_eq (cfg : Cfg) (c : Core) (f : Frame) (x : Nat) :
    appendToFrame cfg c f x =
      { unescapeNext := (unesc cfg.stuffing c.unescapeNext x).2, raw := c.raw ++ [x],
        frame := some ((unesc cfg.stuffing c.unescapeNext x).1.foldl Frame.append f) } := by
  unfold appendToFrame unesc
  cases cfg.stuffing
  case false => rfl
  cases c.unescapeNext
  case true => rfl
  by_cases hx : x = escOctet
  · simp only [↓reduceIte, Bool.false_eq_true, hx, List.foldl_nil]
  · simp only [↓reduceIte, Bool.false_eq_true, hx, List.foldl_cons, List.foldl_nil]

theorem foldl_append_data (p : List Nat) (f : Frame) :
    (p.foldl Frame.append f).data = f.data ++ p := by
  induction p generalizing f with
  | nil => exact (List.append_nil _).symm
  | cons x xs ih => rw [List.foldl_cons, ih, Frame.append, List.append_assoc]; rfl

theorem unesc_plain {s : Bool} (hs : s = false) (u : Bool) (x : Nat) : unesc s u x = ([x], u) := by
  rw [hs]; rfl

theorem unesc_pending {s : Bool} (hs : s = true) (x : Nat) :
    unesc s true x = ([x ^^^ escXor], false) := by
  rw [hs]; rfl

theorem unesc_esc {s : Bool} (hs : s = true) : unesc s false escOctet = ([], true) := by
  rw [hs]; rfl

theorem unesc_other {s : Bool} (hs : s = true) {x : Nat} (hx : x ≠ escOctet) :
    unesc s false x = ([x], false) := by
  rw [hs, unesc, if_pos rfl, if_neg Bool.false_ne_true, if_neg hx]

theorem unesc_octets {x : Nat} (hx : x < 256) (s u : Bool) : Octets (unesc s u x).1 := by
  intro b h
  unfold unesc at h
  split at h
  · split at h
    · cases List.mem_singleton.mp h; exact Nat.xor_lt_two_pow (n := 8) hx (by decide)
    · split at h
      · cases h
      · cases List.mem_singleton.mp h; exact hx
  · cases List.mem_singleton.mp h; exact hx

theorem maxLenCheck_cases (c : Core) :
    (maxLenCheck c = (c, .cont) ∧ ∀ f, c.frame = some f → f.len ≤ maxFrameLen) ∨
    (maxLenCheck c = (gotoHunt c, .hunt) ∧ ∃ f, c.frame = some f ∧ f.len > maxFrameLen) := by
  unfold maxLenCheck
  cases hf : c.frame with
  | none => exact Or.inl ⟨rfl, nofun⟩
  | some f =>
    dsimp only
    by_cases hl : f.len > maxFrameLen
    · rw [if_pos hl]; exact Or.inr ⟨rfl, f, rfl, hl⟩
    · rw [if_neg hl]; exact Or.inl ⟨rfl, fun g hg => by cases hg; exact Nat.le_of_not_gt hl⟩

theorem stepOctet_eq (cfg : Cfg) (c : Core) (x : Nat) :
    stepOctet cfg c x =
      match c.frame with
      | none => (if x = flagOctet then startFrame c else c, [])
      | some f =>
        match effect cfg c.raw f x with
        | .restart => ({ c with raw := [], unescapeNext := false }, [])
        | .drop => (gotoHunt c, [])
        | .deliver => (startFrame c, [f])
        | .absorb => ((maxLenCheck (appendToFrame cfg c f x)).1, []) := by
  unfold stepOctet
  rw [readNext_eq]
  cases hf : c.frame with
  | none => rfl
  | some f =>
    dsimp only
    cases effect cfg c.raw f x with
    | restart => rfl
    | drop => rfl
    | deliver => dsimp only; rw [hf]; rfl
    | absorb =>
      dsimp only
      rcases maxLenCheck_cases (appendToFrame cfg c f x) with ⟨e, -⟩ | ⟨e, -⟩ <;> rw [e]

theorem stepOctet_hunt_flag (cfg : Cfg) {c : Core} (hc : c.frame = none) :
    stepOctet cfg c flagOctet = (startFrame c, []) := by
  rw [stepOctet_eq, hc]; rfl

theorem stepOctet_hunt_other (cfg : Cfg) {c : Core} {x : Nat} (hc : c.frame = none)
    (hx : x ≠ flagOctet) : stepOctet cfg c x = (c, []) := by
  rw [stepOctet_eq, hc]; dsimp only; rw [if_neg hx]

theorem readNext_act {cfg : Cfg} {c c1 : Core} {x : Nat} {a : Act} (h : readNext cfg c x = (c1, a)) :
    (a = .hunt → c1.frame = none) ∧
    (a = .complete → c1 = c ∧ ∃ f, c.frame = some f ∧ f.hcs.isSome = true) := by
  rw [readNext_eq] at h
  revert h
  cases c.frame with
  | none => rintro ⟨⟩; exact ⟨nofun, nofun⟩
  | some f =>
    dsimp only
    cases he : effect cfg c.raw f x with
    | restart => rintro ⟨⟩; exact ⟨nofun, nofun⟩
    | drop => rintro ⟨⟩; exact ⟨fun _ => rfl, nofun⟩
    | deliver => rintro ⟨⟩; exact ⟨nofun, fun _ => ⟨rfl, f, rfl, (effect_deliver he).2.2.1⟩⟩
    | absorb =>
      dsimp only
      rcases maxLenCheck_cases (appendToFrame cfg c f x) with ⟨e, -⟩ | ⟨e, -⟩
      · rw [e]; rintro ⟨⟩; exact ⟨nofun, nofun⟩
      · rw [e]; rintro ⟨⟩; exact ⟨fun _ => rfl, nofun⟩

theorem readNext_complete_frame {cfg : Cfg} {c c1 : Core} {x : Nat}
    (h : readNext cfg c x = (c1, .complete)) : ∃ f, c1.frame = some f := by
  obtain ⟨rfl, f, hf, -⟩ := (readNext_act h).2 rfl
  exact ⟨f, hf⟩

/-- the second part makes an invariant of the core an invariant of every frame returned -/
theorem run_preserves {P : Core → Prop} {ok : Nat → Prop} (cfg : Cfg)
    (start : ∀ c, P (startFrame c))
    (hunt : ∀ c, P c → P (gotoHunt c))
    (restart : ∀ c f, P c → c.frame = some f → f.len = 0 →
      P { unescapeNext := false, raw := [], frame := some f })
    (absorb : ∀ c f x, P c → c.frame = some f → ok x → P (maxLenCheck (appendToFrame cfg c f x)).1)
    (c : Core) (inp : List Nat) (hc : P c) (hi : ∀ x ∈ inp, ok x) :
    P (run cfg c inp).1 ∧
    ∀ f ∈ (run cfg c inp).2, f.hcs.isSome = true ∧ ∃ c', P c' ∧ c'.frame = some f := by
  induction inp generalizing c with
  | nil => exact ⟨hc, nofun⟩
  | cons x xs ih =>
    have hs : P (stepOctet cfg c x).1 ∧
        ∀ f ∈ (stepOctet cfg c x).2, f.hcs.isSome = true ∧ c.frame = some f := by
      rw [stepOctet_eq]
      cases hf : c.frame with
      | none =>
        dsimp only
        by_cases hx : x = flagOctet
        · rw [if_pos hx]; exact ⟨start c, nofun⟩
        · rw [if_neg hx]; exact ⟨hc, nofun⟩
      | some f =>
        dsimp only
        cases he : effect cfg c.raw f x with
        | restart => exact ⟨restart c f hc hf (effect_restart he).2, nofun⟩
        | drop => exact ⟨hunt c hc, nofun⟩
        | deliver =>
          refine ⟨start c, fun g hg => ?_⟩
          dsimp only at hg
          cases List.mem_singleton.mp hg
          exact ⟨(effect_deliver he).2.2.1, rfl⟩
        | absorb => exact ⟨absorb c f x hc hf (hi x List.mem_cons_self), nofun⟩
    obtain ⟨ih1, ih2⟩ := ih _ hs.1 (fun y hy => hi y (List.mem_cons_of_mem _ hy))
    refine ⟨ih1, fun f hf => ?_⟩
    rcases List.mem_append.mp hf with hf | hf
    · exact ⟨(hs.2 f hf).1, c, hc, (hs.2 f hf).2⟩
    · exact ih2 f hf

end Amshan.Hdlc
