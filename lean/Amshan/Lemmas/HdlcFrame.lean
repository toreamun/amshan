import Amshan.Lemmas.HdlcStep
import Amshan.Props.C03
import Amshan.Lemmas.Basic
/-
  An `HdlcFrame` object is determined by its octets: the running FCS register and the cached control
  position are functions of `_frame_data` (`FrameInv`), and the reader only ever holds such frames
  (`CoreInv`).  The accessors are then computed on a frame whose octets have a known shape.
-/
namespace Amshan.Hdlc
open Amshan.Gen Amshan.HdlcSpec

theorem getAddressFrom_some (xs a : List Nat) (h : getAddressFrom xs = some a) :
    ∃ rest, xs = a ++ rest ∧ addrWF a = true := by
  induction xs generalizing a with
  | nil => cases h
  | cons c cs ih =>
    rw [getAddressFrom] at h
    split at h
    · next hc => cases h; exact ⟨cs, rfl, by simp [addrWF, hc]⟩
    · next hc =>
      obtain ⟨a', hg, rfl⟩ := Option.map_eq_some_iff.mp h
      obtain ⟨rest, rfl, hw⟩ := ih a' hg
      refine ⟨rest, rfl, ?_⟩
      match a', hw with
      | y :: ys, hw => simp [addrWF, hw, show c % 2 = 0 by omega]

theorem addrWF_ne_nil (a : List Nat) (h : addrWF a = true) : a ≠ [] := by
  rintro rfl; cases h

theorem addrWF_length_pos (a : List Nat) (h : addrWF a = true) : 0 < a.length :=
  List.length_pos_iff.mpr (addrWF_ne_nil a h)

theorem getAddressFrom_of_addrWF (a rest : List Nat) (h : addrWF a = true) :
    getAddressFrom (a ++ rest) = some a := by
  induction a with
  | nil => cases h
  | cons x xs ih =>
    cases xs with
    | nil =>
      simp only [addrWF, beq_iff_eq] at h
      simp [getAddressFrom, h]
    | cons y ys =>
      simp only [addrWF, Bool.and_eq_true, beq_iff_eq] at h
      have hx : ¬ (x % 2 = 1) := by omega
      rw [List.cons_append, getAddressFrom, if_neg hx, ih h.2]; rfl

theorem getAddressFrom_append (xs ys a : List Nat) (h : getAddressFrom xs = some a) :
    getAddressFrom (xs ++ ys) = some a := by
  obtain ⟨rest, rfl, hw⟩ := getAddressFrom_some xs a h
  rw [List.append_assoc]
  exact getAddressFrom_of_addrWF a _ hw

theorem getAddressFrom_length_pos (xs a : List Nat) (h : getAddressFrom xs = some a) : 0 < a.length := by
  obtain ⟨_, _, hw⟩ := getAddressFrom_some xs a h
  exact addrWF_length_pos a hw

theorem getAddress_eq (d : List Nat) (pos : Nat) : getAddress d pos = getAddressFrom (d.drop pos) := by
  unfold getAddress
  split
  · rfl
  · next h => rw [List.drop_eq_nil_of_le (by omega)]; rfl

/-- the length guards of the three accessors only repeat what `_get_address` finds out anyway -/
theorem destAddr_eq (d : List Nat) : destAddr d = getAddressFrom (d.drop 2) := by
  unfold destAddr
  split
  · exact getAddress_eq d 2
  · next h => rw [List.drop_eq_nil_of_le (by omega)]; rfl

theorem srcAddr_eq (d : List Nat) :
    srcAddr d = (getAddressFrom (d.drop 2)).bind fun dst => getAddressFrom (d.drop (dst.length + 2)) := by
  unfold srcAddr
  rw [destAddr_eq]
  cases getAddressFrom (d.drop 2) with
  | none => rfl
  | some dst => show getAddress d (2 + dst.length) = _; rw [Nat.add_comm, getAddress_eq]; rfl

theorem controlPos_eq (d : List Nat) :
    controlPos d = (getAddressFrom (d.drop 2)).bind fun dst =>
      (getAddressFrom (d.drop (dst.length + 2))).map fun src => 2 + dst.length + src.length := by
  unfold controlPos
  rw [srcAddr_eq, destAddr_eq]
  cases getAddressFrom (d.drop 2) with
  | none => rfl
  | some dst => dsimp only [Option.bind]; cases getAddressFrom (d.drop (dst.length + 2)) <;> rfl

theorem srcAddr_nil : srcAddr [] = none := rfl
theorem srcAddr_single (a : Nat) : srcAddr [a] = none := rfl

theorem controlPos_some (d : List Nat) (p : Nat) (h : controlPos d = some p) :
    ∃ a b dst src rest, d = [a, b] ++ dst ++ src ++ rest ∧ addrWF dst = true ∧ addrWF src = true ∧
      p = 2 + dst.length + src.length := by
  rw [controlPos_eq] at h
  match d, h with
  | [], h => cases h
  | [_], h => cases h
  | a :: b :: t, h =>
    obtain ⟨dst, hd, h⟩ := Option.bind_eq_some_iff.mp h
    obtain ⟨src, hs, rfl⟩ := Option.map_eq_some_iff.mp h
    obtain ⟨r1, (e1 : t = _), w1⟩ := getAddressFrom_some _ _ hd
    obtain ⟨r2, (e2 : t.drop dst.length = _), w2⟩ := getAddressFrom_some _ _ hs
    rw [e1, List.drop_left] at e2
    exact ⟨a, b, dst, src, r2, by rw [e1, e2]; simp, w1, w2, rfl⟩

theorem destAddr_of_shape (a b : Nat) (dst rest : List Nat) (hdst : addrWF dst = true) :
    destAddr ([a, b] ++ dst ++ rest) = some dst := by
  rw [destAddr_eq]
  exact getAddressFrom_of_addrWF dst rest hdst

theorem srcAddr_of_shape (a b : Nat) (dst src rest : List Nat)
    (hdst : addrWF dst = true) (hsrc : addrWF src = true) :
    srcAddr ([a, b] ++ dst ++ src ++ rest) = some src := by
  rw [srcAddr_eq]
  show (getAddressFrom (dst ++ src ++ rest)).bind _ = _
  rw [List.append_assoc, getAddressFrom_of_addrWF dst _ hdst]
  show getAddressFrom ((dst ++ src ++ rest).drop dst.length) = _
  rw [List.append_assoc, List.drop_left, getAddressFrom_of_addrWF src _ hsrc]

theorem controlPos_of_shape (a b : Nat) (dst src rest : List Nat)
    (hdst : addrWF dst = true) (hsrc : addrWF src = true) :
    controlPos ([a, b] ++ dst ++ src ++ rest) = some (2 + dst.length + src.length) := by
  unfold controlPos
  rw [srcAddr_of_shape a b dst src rest hdst hsrc, List.append_assoc _ src rest,
    destAddr_of_shape a b dst _ hdst]

theorem controlPos_some_length (d : List Nat) (p : Nat) (h : controlPos d = some p) :
    4 ≤ p ∧ p ≤ d.length := by
  obtain ⟨a, b, dst, src, rest, e, w1, w2, hp⟩ := controlPos_some d p h
  have := addrWF_length_pos _ w1
  have := addrWF_length_pos _ w2
  subst e
  simp only [List.length_append, List.length_cons, List.length_nil]
  omega

/-- `header.update()` only starts looking after the fourth octet: nothing is lost -/
theorem controlPos_short (d : List Nat) (h : d.length ≤ 3) : controlPos d = none := by
  cases hc : controlPos d with
  | none => rfl
  | some p => have := controlPos_some_length d p hc; omega

theorem controlPos_append (d ys : List Nat) (p : Nat) (h : controlPos d = some p) :
    controlPos (d ++ ys) = some p := by
  obtain ⟨a, b, dst, src, rest, e, w1, w2, hp⟩ := controlPos_some d p h
  subst e hp
  rw [List.append_assoc _ rest ys]
  exact controlPos_of_shape a b dst src (rest ++ ys) w1 w2

theorem FrameInv_empty : FrameInv Frame.empty := ⟨rfl, rfl, Octets_nil⟩

theorem FrameInv_append (f : Frame) (b : Nat) (h : FrameInv f) (hb : b < 256) :
    FrameInv (f.append b) := by
  obtain ⟨hcrc, hctl, hoct⟩ := h
  refine ⟨?_, ?_, ?_⟩
  · simp only [Frame.append]
    rw [Amshan.FcsLemmas.feed_append, ← hcrc]; rfl
  · simp only [Frame.append]
    cases hp : f.ctlPos with
    | some p =>
      simp only
      rw [hp] at hctl
      exact (controlPos_append f.data [b] p hctl.symm).symm
    | none =>
      simp only
      split
      · rfl
      · rename_i hl
        exact (controlPos_short _ (by omega)).symm
  · exact Octets_append.mpr ⟨hoct, Octets_cons.mpr ⟨hb, Octets_nil⟩⟩

theorem foldl_append_inv (p : List Nat) (f : Frame) (hf : FrameInv f) (hp : Octets p) :
    FrameInv (p.foldl Frame.append f) := by
  induction p generalizing f with
  | nil => exact hf
  | cons x xs ih =>
    rw [Octets_cons] at hp
    exact ih _ (FrameInv_append f x hf hp.1) hp.2

theorem Frame.append_data (f : Frame) (b : Nat) : (f.append b).data = f.data ++ [b] := rfl

theorem CoreInv_init : CoreInv Core.init := trivial

theorem CoreInv_startFrame (c : Core) : CoreInv (startFrame c) := FrameInv_empty

theorem CoreInv_gotoHunt (c : Core) : CoreInv (gotoHunt c) := trivial

theorem CoreInv_appendToFrame (cfg : Cfg) (c : Core) (f : Frame) (x : Nat)
    (hf : FrameInv f) (hx : x < 256) : CoreInv (appendToFrame cfg c f x) := by
  rw [appendToFrame_eq]
  exact foldl_append_inv _ f hf (unesc_octets hx _ _)

theorem CoreInv_maxLenCheck (c1 : Core) (h : CoreInv c1) : CoreInv (maxLenCheck c1).1 := by
  rcases maxLenCheck_cases c1 with ⟨e, -⟩ | ⟨e, -⟩ <;> rw [e]
  · exact h
  · exact CoreInv_gotoHunt c1

theorem CoreInv_some {c : Core} {f : Frame} (h : CoreInv c) (hf : c.frame = some f) : FrameInv f := by
  simpa only [CoreInv, hf] using h

theorem run_inv (cfg : Cfg) (c : Core) (inp : List Nat) (hc : CoreInv c) (hi : Octets inp) :
    (∀ f ∈ (run cfg c inp).2, FrameInv f) ∧ CoreInv (run cfg c inp).1 := by
  have := run_preserves (ok := (· < 256)) cfg CoreInv_startFrame (fun c _ => CoreInv_gotoHunt c)
    (fun _ f h hf _ => CoreInv_some h hf)
    (fun c f x h hf hx => CoreInv_maxLenCheck _ (CoreInv_appendToFrame cfg c f x (CoreInv_some h hf) hx))
    c inp hc hi
  refine ⟨fun f hf => ?_, this.1⟩
  obtain ⟨-, c', hc', hf'⟩ := this.2 f hf
  exact CoreInv_some hc' hf'

theorem shl8_or (a b : Nat) (hb : b < 256) : (a <<< 8) ||| b = a * 256 + b := by
  rw [← Nat.shiftLeft_add_eq_or_of_lt (i := 8) (by simpa using hb), Nat.shiftLeft_eq]

theorem fmt_type (a b : Nat) (hb : b < 256) : ((a * 256 + b) >>> 12) &&& 0xF = a / 16 % 16 := by
  rw [and_mask4, Nat.shiftRight_eq_div_pow]
  show (a * 256 + b) / 4096 % 16 = a / 16 % 16
  omega

theorem split_last2 (d : List Nat) (h : 2 ≤ d.length) : ∃ m t0 t1, d = m ++ [t0, t1] := by
  have hl : (d.drop (d.length - 2)).length = 2 := by rw [List.length_drop]; omega
  match hd : d.drop (d.length - 2), hl with
  | [t0, t1], _ => exact ⟨d.take (d.length - 2), t0, t1, by rw [← hd, List.take_append_drop]⟩

/-- `C03.residue` for a string that is not given as `m ++ [t0, t1]` -/
theorem isGood_iff_trailer (d : List Nat) (ho : Octets d) (hl : 2 ≤ d.length) :
    Fcs.isGood (Fcs.feed fcsInit d) = true ↔
      ∃ m t0 t1, d = m ++ [t0, t1] ∧ t0 = Rfc1662.fcs16 m % 256 ∧ t1 = Rfc1662.fcs16 m / 256 := by
  have key : ∀ m t0 t1, d = m ++ [t0, t1] → (Fcs.isGood (Fcs.feed fcsInit d) = true ↔
      t0 = Rfc1662.fcs16 m % 256 ∧ t1 = Rfc1662.fcs16 m / 256) := by
    intro m t0 t1 e
    subst e
    obtain ⟨hm, ht⟩ := Octets_append.mp ho
    exact Amshan.C03.residue m t0 t1 hm (Octets_cons.mp ht).1 (Octets_cons.mp (Octets_cons.mp ht).2).1
  constructor
  · intro h
    obtain ⟨m, t0, t1, e⟩ := split_last2 d hl
    exact ⟨m, t0, t1, e, (key m t0 t1 e).mp h⟩
  · rintro ⟨m, t0, t1, e, h⟩
    exact (key m t0 t1 e).mpr h

theorem getElem?_len (pre : List Nat) (x : Nat) (t : List Nat) : (pre ++ x :: t)[pre.length]? = some x := by
  simp

theorem getElem?_len1 (pre : List Nat) (x y : Nat) (t : List Nat) :
    (pre ++ x :: y :: t)[pre.length + 1]? = some y := by
  rw [List.getElem?_append_right (by omega)]
  simp

theorem getElem?_len2 (pre : List Nat) (x y z : Nat) (t : List Nat) :
    (pre ++ x :: y :: z :: t)[pre.length + 2]? = some z := by
  rw [List.getElem?_append_right (by omega)]
  simp

theorem Frame.control_of (f : Frame) (p : Nat) (pre : List Nat) (x : Nat) (t : List Nat)
    (hp : f.ctlPos = some p) (hd : f.data = pre ++ x :: t) (hl : pre.length = p) :
    f.control = some x := by
  subst hl
  have hlen : f.len > pre.length := by simp [Frame.len, hd]
  simp only [Frame.control, hp, hlen, if_true, hd, getElem?_len]

theorem Frame.hcs_of (f : Frame) (p : Nat) (pre : List Nat) (x h1 h2 : Nat) (t : List Nat)
    (hp : f.ctlPos = some p) (hd : f.data = pre ++ x :: h1 :: h2 :: t) (hl : pre.length = p) :
    f.hcs = some ((h1 <<< 8) ||| h2) := by
  subst hl
  have hlen : f.len > pre.length + 2 := by simp [Frame.len, hd]
  simp only [Frame.hcs, hp, hlen, if_true, hd, getElem?_len1, getElem?_len2]

theorem Frame.fcsField_of (f : Frame) (p : Nat) (X : List Nat) (u v : Nat)
    (hp : f.ctlPos = some p) (hd : f.data = X ++ [u, v]) (hl : p + 3 ≤ X.length + 2) :
    f.fcsField = some ((u <<< 8) ||| v) := by
  have hlen : f.len = X.length + 2 := by simp [Frame.len, hd]
  have hge : f.len ≥ p + 3 := by omega
  have e1 : f.len - 2 = X.length := by omega
  have e2 : f.len - 1 = X.length + 1 := by omega
  simp only [Frame.fcsField, Frame.infoPos, hp, Option.map_some, hge, if_true, e1, e2, hd,
    getElem?_len, getElem?_len1]

theorem Frame.payload_of (f : Frame) (p : Nat) (P I : List Nat) (u v : Nat)
    (hp : f.ctlPos = some p) (hd : f.data = P ++ I ++ [u, v]) (hl : P.length = p + 3) :
    f.payload = some I := by
  have hlen : f.len = p + 3 + I.length + 2 := by simp [Frame.len, hd, hl]; omega
  have hgt : f.len > p + 3 := by omega
  have hs : sliceNegEnd f.data (p + 3) 2 = I := by
    unfold sliceNegEnd
    have : f.data.length - 2 = (P ++ I).length := by
      simp only [Frame.len] at hlen
      rw [hlen, List.length_append, hl]; omega
    rw [this, hd, List.take_left, ← hl, List.drop_left]
  simp only [Frame.payload, Frame.infoPos, hp, Option.map_some, hgt, if_true, hs]

theorem Frame.payload_nil_of (f : Frame) (p : Nat) (hp : f.ctlPos = some p) (hl : f.len = p + 4) :
    f.payload = some [] := by
  have hgt : f.len > p + 3 := by omega
  have hs : sliceNegEnd f.data (p + 3) 2 = [] := by
    unfold sliceNegEnd
    apply List.drop_eq_nil_of_le
    simp only [Frame.len] at hl
    rw [List.length_take, hl]; omega
  simp only [Frame.payload, Frame.infoPos, hp, Option.map_some, hgt, if_true, hs]

theorem Frame.payload_none_of (f : Frame) (p : Nat) (hp : f.ctlPos = some p) (hl : f.len ≤ p + 3) :
    f.payload = none := by
  have hgt : ¬ (f.len > p + 3) := by omega
  simp only [Frame.payload, Frame.infoPos, hp, Option.map_some, hgt, if_false]

theorem Frame.frameFormat_of (f : Frame) (a b : Nat) (t : List Nat) (hd : f.data = a :: b :: t) :
    f.frameFormat = some ((a <<< 8) ||| b) := by
  simp only [Frame.frameFormat, hd]

theorem Frame.hcs_isSome_iff (f : Frame) :
    f.hcs.isSome = true ↔ ∃ p, f.ctlPos = some p ∧ p + 2 < f.len := by
  unfold Frame.hcs
  cases hp : f.ctlPos with
  | none => exact ⟨nofun, fun ⟨_, h, _⟩ => nomatch h⟩
  | some p =>
    dsimp only
    by_cases hl : f.len > p + 2
    · have h1 : p + 1 < f.data.length := Nat.lt_of_succ_lt hl
      rw [if_pos hl, List.getElem?_eq_getElem h1, List.getElem?_eq_getElem (show p + 2 < f.data.length from hl)]
      exact ⟨fun _ => ⟨p, rfl, hl⟩, fun _ => rfl⟩
    · rw [if_neg hl]
      exact ⟨nofun, fun ⟨q, hq, hql⟩ => absurd (Option.some.inj hq ▸ hql) hl⟩

end Amshan.Hdlc
