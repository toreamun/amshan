import Amshan.Props.C13
import Amshan.Props.C02
import Amshan.Props.C04
import Amshan.Model.ProtoInst
import Amshan.Lemmas.HdlcCarve
/-
  A candidate that never reports a valid message can be taken out of the candidate list, wherever it
  stands, without changing what is forwarded.  The concrete candidates' message streams (`hdlcRd`,
  `p1Rd`) are the outputs of the reader models (`Hdlc.readAll`, `P1.readAll`); this is stated for a
  candidate in an arbitrary reader state (`hdlcRdAt`, `p1RdAt`) because the induction over the chunks
  leaves the initial state.
-/
namespace Amshan.Proto
open Amshan.ProtoSpec

theorem anyValid_false_of_all_invalid (ms : List Msg) (h : ∀ m ∈ ms, m.valid = false) :
    anyValid ms = false := by
  rw [List.any_eq_false]
  intro m hm
  simp [h m hm]

theorem quiet_cons {q : Rd} {ch : List Nat} {chs : List (List Nat)}
    (hq : ∀ m ∈ (q.feedAll (ch :: chs)).flatten, m.valid = false) :
    anyValid (q.feed ch).2 = false ∧ ∀ m ∈ (Rd.feedAll (q.feed ch).1 chs).flatten, m.valid = false := by
  rw [feedAll_cons, List.flatten_cons] at hq
  exact ⟨anyValid_false_of_all_invalid _ (fun m hm => hq m (List.mem_append_left _ hm)),
    fun m hm => hq m (List.mem_append_right _ hm)⟩

/-- the index in `pre ++ q :: post` of what has index `i` in `pre ++ post` -/
def skip (n i : Nat) : Nat := if i < n then i else i + 1

theorem getElem?_skip (pre post : List Rd) (q : Rd) (i : Nat) :
    (pre ++ q :: post)[skip pre.length i]? = (pre ++ post)[i]? := by
  unfold skip
  split
  · rename_i h
    rw [List.getElem?_append_left h, List.getElem?_append_left h]
  · rename_i h
    rw [List.getElem?_append_right (by omega), List.getElem?_append_right (by omega),
      show i + 1 - pre.length = (i - pre.length) + 1 by omega, List.getElem?_cons_succ]

theorem firstNow_skip (ch : List Nat) (pre post : List Rd) (q : Rd) (hq : anyValid (q.feed ch).2 = false) :
    firstNow ch (pre ++ q :: post) = (firstNow ch (pre ++ post)).map (skip pre.length) := by
  induction pre with
  | nil =>
    simp only [List.nil_append, firstNow, hq, Bool.false_eq_true, if_false]
    rfl
  | cons p pre ih =>
    simp only [List.cons_append, firstNow, ih, List.length_cons]
    split
    · rfl
    · rw [Option.map_map, Option.map_map]
      congr 1
      funext i
      simp only [Function.comp, skip, Nat.add_lt_add_iff_right]
      split <;> rfl

theorem forwarded_quiet (pre post : List Rd) (q : Rd) (chunks : List (List Nat))
    (hq : ∀ m ∈ (q.feedAll chunks).flatten, m.valid = false) :
    forwarded (pre ++ q :: post) chunks = forwarded (pre ++ post) chunks := by
  induction chunks generalizing pre post q with
  | nil => rfl
  | cons ch chs ih =>
    obtain ⟨h1, h2⟩ := quiet_cons hq
    rw [forwarded_cons, forwarded_cons, firstNow_skip ch pre post q h1]
    cases firstNow ch (pre ++ post) with
    | some i => simp only [Option.map_some, getElem?_skip]
    | none =>
      have := ih (advance pre ch) (advance post ch) (q.feed ch).1 h2
      simpa only [Option.map_none, advance, List.map_append, List.map_cons] using this

theorem runAll_quiet (k : Kind) (pre post : List Rd) (q : Rd) (chunks : List (List Nat))
    (hq : ∀ m ∈ (q.feedAll chunks).flatten, m.valid = false) :
    (runAll k (State.init (pre ++ q :: post)) chunks).2 = (runAll k (State.init (pre ++ post)) chunks).2 := by
  show (runAll k ⟨none, _⟩ chunks).2 = (runAll k ⟨none, _⟩ chunks).2
  rw [(runAll_unselected k _ chunks).1, (runAll_unselected k _ chunks).1, forwarded_quiet pre post q chunks hq]

def hdlcRdAt (cfg : Hdlc.Cfg) (r : Hdlc.Reader) : Rd := { hdlcRd cfg with st := r }

theorem hdlcRdAt_init (cfg : Hdlc.Cfg) : hdlcRdAt cfg Hdlc.Reader.init = hdlcRd cfg := rfl

theorem hdlcRdAt_feed (cfg : Hdlc.Cfg) (r : Hdlc.Reader) (ch : List Nat) :
    (hdlcRdAt cfg r).feed ch = (hdlcRdAt cfg (Hdlc.read cfg r ch).1, (Hdlc.read cfg r ch).2.map frameMsg) :=
  rfl

theorem hdlcRdAt_feedAll (cfg : Hdlc.Cfg) (r : Hdlc.Reader) (chunks : List (List Nat)) :
    (hdlcRdAt cfg r).feedAll chunks = (Hdlc.readAll cfg r chunks).2.map (·.map frameMsg) := by
  induction chunks generalizing r with
  | nil => rfl
  | cons ch chs ih =>
    rw [feedAll_cons, hdlcRdAt_feed, Hdlc.readAll_cons]
    simp only [List.map_cons, ih]

theorem hdlcRd_feedAll_flatten (cfg : Hdlc.Cfg) (chunks : List (List Nat)) :
    ((hdlcRd cfg).feedAll chunks).flatten =
      (Hdlc.readAll cfg Hdlc.Reader.init chunks).2.flatten.map frameMsg := by
  rw [← hdlcRdAt_init, hdlcRdAt_feedAll, ← List.map_flatten]

theorem goodPayload_expectedFrame (d : HdlcSpec.FrameDesc) (h : d.WF) :
    (frameMsg (Hdlc.expectedFrame d)).valid = true ∧
    (goodPayload (frameMsg (Hdlc.expectedFrame d))).map Item.payload =
      (if d.info.isEmpty then none else some (Item.payload d.info)) := by
  obtain ⟨hv, _, hp, _⟩ := Amshan.C02.expected_observation d h
  refine ⟨hv, ?_⟩
  unfold goodPayload frameMsg
  simp only [hv, if_true, hp]
  cases hi : d.info.isEmpty with
  | true => rfl
  | false => simp only [Bool.false_eq_true, if_false, hi, Option.map_some]

theorem hdlcRd_noflag (cfg : Hdlc.Cfg) (chunks : List (List Nat)) (h : Gen.flagOctet ∉ chunks.flatten) :
    ((hdlcRd cfg).feedAll chunks).flatten = [] := by
  rw [hdlcRd_feedAll_flatten, Hdlc.readAll_frames cfg _ chunks Hdlc.Reader.init_buf,
    Hdlc.run_hunt_noflag cfg _ _ rfl h]
  rfl

def p1RdAt (r : P1.Reader) : Rd := { p1Rd with st := r }

theorem p1RdAt_init : p1RdAt P1.Reader.init = p1Rd := rfl

theorem p1RdAt_feed_ok (r r1 : P1.Reader) (ch : List Nat) (o1 : List P1.Readout)
    (h : P1.read r ch = .ok (r1, o1)) : (p1RdAt r).feed ch = (p1RdAt r1, o1.map readoutMsg) := by
  unfold Rd.feed p1RdAt p1Rd
  simp only [h]

theorem p1RdAt_feedAll (r r' : P1.Reader) (chunks : List (List Nat)) (outs : List (List P1.Readout))
    (h : P1.readAll r chunks = .ok (r', outs)) :
    (p1RdAt r).feedAll chunks = outs.map (·.map readoutMsg) := by
  induction chunks generalizing r outs with
  | nil =>
    unfold P1.readAll at h
    cases h
    rfl
  | cons ch chs ih =>
    unfold P1.readAll at h
    split at h
    · cases h
    · rename_i r1 o1 h1
      split at h
      · cases h
      · rename_i r2 o2 h2
        cases h
        rw [feedAll_cons, p1RdAt_feed_ok r r1 ch o1 h1, List.map_cons, ih r1 o2 h2]

theorem p1Rd_feedAll_flatten (r' : P1.Reader) (chunks : List (List Nat)) (outs : List (List P1.Readout))
    (h : P1.readAll P1.Reader.init chunks = .ok (r', outs)) :
    (p1Rd.feedAll chunks).flatten = outs.flatten.map readoutMsg := by
  rw [← p1RdAt_init, p1RdAt_feedAll _ r' chunks outs h, ← List.map_flatten]

theorem goodPayload_expectedReadout (d : P1Spec.ReadoutDesc) (h : d.WF) :
    (readoutMsg (P1.expectedReadout d)).valid = true ∧
    (goodPayload (readoutMsg (P1.expectedReadout d))).map Item.payload =
      (if d.payload.isEmpty then none else some (Item.payload d.payload)) := by
  obtain ⟨_, hv, hp, _⟩ := Amshan.C04.valid_complete d h
  have hv' : (readoutMsg (P1.expectedReadout d)).valid = true := by simp only [readoutMsg, hv]
  refine ⟨hv', ?_⟩
  rw [goodPayload, hv', if_pos rfl]
  simp only [readoutMsg, hp]
  cases d.payload.isEmpty <;> rfl

theorem single_candidate_stream {α : Type} (r : Rd) (chunks : List (List Nat)) (l : List α)
    (f : α → Msg) (g : α → Option Item)
    (hstream : (r.feedAll chunks).flatten = l.map f)
    (hl : ∀ x ∈ l, (f x).valid = true ∧ (goodPayload (f x)).map Item.payload = g x) :
    (runAll Kind.payload (State.init [r]) chunks).2 = l.filterMap g := by
  rw [Amshan.C13.single_candidate r chunks (by
    rw [hstream]
    intro m hm
    obtain ⟨x, hx, rfl⟩ := List.mem_map.mp hm
    exact (hl x hx).1), hstream, List.filterMap_map, List.map_filterMap]
  clear hstream
  induction l with
  | nil => rfl
  | cons x xs ih =>
    rw [List.filterMap_cons, List.filterMap_cons, ← (hl x (List.mem_cons_self ..)).2,
      ih fun y hy => hl y (List.mem_cons_of_mem _ hy)]
    rfl

end Amshan.Proto
