import Amshan.Lemmas.HdlcCleanFrame
/-
  One well-formed frame between flags is delivered exactly, and so is a whole clean stream (C02 at the
  level of the octet machine `run`).  A clean stream is read as one flag followed by blocks, each the
  remaining fill flags of a frame, the frame and its closing flag (`shifted`).
-/
namespace Amshan.HdlcClean
open Amshan.Gen Amshan.Hdlc Amshan.HdlcSpec

theorem step_frame_end (cfg : Cfg) (d : FrameDesc) (h : d.WF) (u : Bool) (raw : List Nat) :
    stepOctet cfg (st u raw d.encode) flagOctet =
      if abortSeq cfg raw then (gotoHunt (st u raw d.encode), []) else (fresh, [expectedFrame d]) := by
  have h0 := mk_len_ne_zero (encode_ne_nil d)
  rw [step_st]
  cases ha : abortSeq cfg raw with
  | true => rw [effect_flag_drop h0 (by rw [ha, Bool.or_true])]; rfl
  | false =>
    rw [effect_flag_pass h0 (hcs_encode d h) ha, isExpectedLength_encode d h, Bool.or_true, if_pos rfl,
      expectedFrame_eq d h]
    rfl

theorem esc_before_flag (p r : List Nat) (h : escBeforeFlagOrEnd (p ++ flag :: r) = false) :
    p.getLast? ≠ some esc := by
  induction p with
  | nil => simp
  | cons b p' ih =>
    cases p' with
    | nil =>
      simp only [List.cons_append, List.nil_append, escBeforeFlagOrEnd, Bool.or_eq_false_iff] at h
      simpa using h.1
    | cons c p'' =>
      simp only [List.cons_append, escBeforeFlagOrEnd, Bool.or_eq_false_iff] at h
      rw [List.getLast?_cons_cons]
      exact ih h.2

theorem esc_before_end (l : List Nat) (h : escBeforeFlagOrEnd l = false) : l.getLast? ≠ some esc := by
  induction l with
  | nil => simp
  | cons b l' ih =>
    cases l' with
    | nil =>
      simp only [escBeforeFlagOrEnd, beq_eq_false_iff_ne] at h
      simpa using h
    | cons c l'' =>
      simp only [escBeforeFlagOrEnd, Bool.or_eq_false_iff] at h
      rw [List.getLast?_cons_cons]
      exact ih h.2

theorem esc_before_of_noflag (l : List Nat) (hf : flag ∉ l) (hl : l.getLast? ≠ some esc) :
    escBeforeFlagOrEnd l = false := by
  induction l with
  | nil => rfl
  | cons b l' ih =>
    cases l' with
    | nil =>
      simp only [escBeforeFlagOrEnd, beq_eq_false_iff_ne]
      simpa using hl
    | cons c l'' =>
      rw [List.getLast?_cons_cons] at hl
      simp only [escBeforeFlagOrEnd, Bool.or_eq_false_iff, Bool.and_eq_false_iff]
      refine ⟨Or.inr ?_, ih (fun h => hf (by simp [h])) hl⟩
      apply beq_false_of_ne
      intro e; exact hf (by simp [e])

theorem not_mem_take_split (e q1 q2 : List Nat) (x k : Nat) (he : e = q1 ++ x :: q2)
    (h : x ∉ e.take k) : k ≤ q1.length := by
  subst he
  refine Nat.le_of_not_lt fun hk => h (List.mem_take_iff_getElem.mpr ⟨q1.length, ?_, ?_⟩)
  · simp only [List.length_append, List.length_cons]; omega
  · simp

theorem abortSeq_encode (cfg : Cfg) (d : FrameDesc) :
    abortSeq cfg d.encode = true ↔ cfg.abort = true ∧ d.encode.getLast? = some esc := by
  have := encode_length d
  have := totalLen_ge d
  have := headLen_ge d
  rw [abortSeq_eq_true]
  exact ⟨fun ⟨ha, _, hl⟩ => ⟨ha, hl⟩, fun ⟨ha, hl⟩ => ⟨ha, by omega, hl⟩⟩

theorem body_plain (cfg : Cfg) (hst : cfg.stuffing = false) (d : FrameDesc) (h : d.WF)
    (hflag : flag ∉ d.encode.take (d.headLen + 2))
    (habort : cfg.abort = true → ∀ q1 q2, d.encode = q1 ++ flag :: q2 → q1.getLast? ≠ some esc) :
    run cfg fresh d.encode = (st false d.encode d.encode, []) := by
  have hlen := encode_length d
  have hhl := headLen_ge d
  refine (run_body cfg false d.encode [] [] (fun q1 q2 e => ?_) ?_).trans ?_
  case refine_2 => rw [hst, unescAll_plain, List.length_nil, Nat.zero_add]; exact encode_length_le d h
  case refine_3 => rw [hst, unescAll_plain]; rfl
  have hq : d.headLen + 2 ≤ q1.length := not_mem_take_split d.encode q1 q2 flag _ e hflag
  have hq1 : q1 ≠ [] := by intro e'; rw [e'] at hq; simp at hq
  have hl2 : q1.length + 1 + q2.length = d.totalLen := by
    rw [← hlen, e]; simp; omega
  rw [hst, unescAll_plain, List.nil_append,
    effect_flag_pass (mk_len_ne_zero hq1) (hcs_prefix d h q1 _ e.symm hq)
      (abortSeq_eq_false fun ha => habort ha q1 q2 e),
    hst, isExpectedLength_prefix d h q1 _ e.symm (by omega), Bool.false_or,
    if_neg (by rw [decide_eq_true_eq]; omega)]

theorem one_frame (cfg : Cfg) (d : FrameDesc) (h : d.WF) (hdom : InDomain cfg.stuffing cfg.abort d) :
    run cfg fresh (onWire cfg.stuffing d ++ [flagOctet]) = (fresh, [expectedFrame d]) := by
  cases hst : cfg.stuffing with
  | true =>
    rw [onWire, if_pos rfl, run_append, fresh, run_body cfg false (stuff d.encode) [] []
        (fun q1 q2 e => absurd (e ▸ List.mem_append_right q1 List.mem_cons_self) (flag_not_mem_stuff _)),
      hst, unescAll_stuff]
    · simp only [List.nil_append, run_cons, run_nil]
      rw [step_frame_end cfg d h, abortSeq_eq_false fun _ => getLast?_stuff_ne_esc _]
      rfl
    · rw [hst, unescAll_stuff, List.length_nil, Nat.zero_add]; exact encode_length_le d h
  | false =>
    rcases hdom with hd | ⟨hflag, habort⟩
    · rw [hst] at hd; cases hd
    rw [onWire, if_neg Bool.false_ne_true, run_append,
      body_plain cfg hst d h hflag fun ha q1 q2 e => esc_before_flag q1 q2 (e ▸ habort ha),
      run_cons, run_nil, step_frame_end cfg d h,
      Bool.eq_false_iff.mpr fun hab =>
        esc_before_end _ (habort ((abortSeq_encode cfg d).mp hab).1) ((abortSeq_encode cfg d).mp hab).2]
    rfl

/-- the stream after its first flag: every frame preceded by its remaining fill flags and followed by
    one flag, then the remaining closing flags -/
def shifted (stuffing : Bool) (fs : List (FrameDesc × Nat)) (k : Nat) : List Nat :=
  (fs.flatMap fun p => List.replicate (p.2 - 1) flagOctet ++ onWire stuffing p.1 ++ [flagOctet]) ++
    List.replicate k flagOctet

theorem shifted_nil (s : Bool) (k : Nat) : shifted s [] k = List.replicate k flagOctet := rfl

theorem shifted_cons (s : Bool) (d : FrameDesc) (n : Nat) (fs : List (FrameDesc × Nat)) (k : Nat) :
    shifted s ((d, n) :: fs) k =
      List.replicate (n - 1) flagOctet ++ (onWire s d ++ [flagOctet]) ++ shifted s fs k := by
  simp [shifted, List.flatMap_cons]

theorem frames_eq_shifted (s : Bool) (fs : List (FrameDesc × Nat)) (k : Nat)
    (hfill : ∀ p ∈ fs, 1 ≤ p.2) :
    (fs.flatMap fun p => List.replicate p.2 flag ++ onWire s p.1) ++ List.replicate (k + 1) flag =
      flagOctet :: shifted s fs k := by
  induction fs with
  | nil => simp [shifted, List.replicate_succ, ← flagOctet_eq_flag]
  | cons p fs ih =>
    obtain ⟨d, n⟩ := p
    have hn : 1 ≤ n := hfill (d, n) (by simp)
    obtain ⟨m, rfl⟩ : ∃ m, n = m + 1 := ⟨n - 1, by omega⟩
    rw [List.flatMap_cons, List.append_assoc, ih (fun p hp => hfill p (by simp [hp])), shifted_cons]
    simp only [Nat.add_sub_cancel, List.replicate_succ, ← flagOctet_eq_flag, List.cons_append, List.append_assoc,
      List.nil_append]

theorem wire_eq_shifted (s : Bool) (noise : List Nat) (fs : List (FrameDesc × Nat)) (closing : Nat)
    (hfill : ∀ p ∈ fs, 1 ≤ p.2) (hcl : 1 ≤ closing) :
    wire s noise fs closing = noise ++ flagOctet :: shifted s fs (closing - 1) := by
  obtain ⟨k, rfl⟩ : ∃ k, closing = k + 1 := ⟨closing - 1, by omega⟩
  unfold wire
  rw [List.append_assoc, frames_eq_shifted s fs k hfill]
  rfl

theorem run_shifted_fresh (cfg : Cfg) (fs : List (FrameDesc × Nat)) (k : Nat)
    (hfs : ∀ p ∈ fs, p.1.WF ∧ InDomain cfg.stuffing cfg.abort p.1) :
    run cfg fresh (shifted cfg.stuffing fs k) = (fresh, fs.map (fun p => expectedFrame p.1)) := by
  induction fs with
  | nil => rw [shifted_nil, run_fresh_flags]; rfl
  | cons p fs ih =>
    obtain ⟨d, n⟩ := p
    have hd := hfs (d, n) (by simp)
    rw [shifted_cons, run_append, run_append, run_fresh_flags, one_frame cfg d hd.1 hd.2,
      ih (fun p hp => hfs p (by simp [hp]))]
    rfl

/-- C02 for the octet machine from a reader that is hunting (any flag-free noise first) or that is at
    the start of a frame (just after a flag; no noise) -/
theorem clean_run_from (cfg : Cfg) (c : Core) (noise : List Nat) (fs : List (FrameDesc × Nat))
    (closing : Nat)
    (hc : c.frame = none ∨ (noise = [] ∧ ∃ u raw, c = st u raw []))
    (hnoise : flag ∉ noise)
    (hfs : ∀ p ∈ fs, p.1.WF ∧ 1 ≤ p.2 ∧ InDomain cfg.stuffing cfg.abort p.1)
    (hcl : 1 ≤ closing) :
    (run cfg c (wire cfg.stuffing noise fs closing)).2 = fs.map (fun p => expectedFrame p.1) := by
  rw [wire_eq_shifted _ _ _ _ (fun p hp => (hfs p hp).2.1) hcl, run_append]
  rcases hc with hc | ⟨hn, u, raw, hc⟩
  · rw [run_hunt_noflag cfg c noise hc hnoise, run_cons,
      step_hunt_flag cfg c hc,
      run_shifted_fresh cfg fs _ (fun p hp => ⟨(hfs p hp).1, (hfs p hp).2.2⟩)]
    rfl
  · subst hn hc
    rw [run_nil, run_cons, step_empty_flag,
      run_shifted_fresh cfg fs _ (fun p hp => ⟨(hfs p hp).1, (hfs p hp).2.2⟩)]
    rfl

end Amshan.HdlcClean
