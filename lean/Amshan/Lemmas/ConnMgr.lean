import Amshan.Lemmas.ConnMgrStep
/-
  The inductive invariant of the ConnectionManager transition system: a table (`phaseOf`) of what
  connect_loop's program counter implies about the tasks and `_connection`, and the bookkeeping of the
  transports.  It is preserved constructor by constructor of `Step`; each case names the clauses it touches.
  `runLabels` takes a list of transitions from a state: the paths of C17Progress, and the runs the examples evaluate.
-/
namespace Amshan.ConnMgr
open Amshan.BackOff

/-- what connect_loop's program counter says, in this order at every counter, about the waiter tasks,
    the connect task, `_connection` and a pending cancellation -/
@[reducible] def phaseOf (s : S) : LPc → Prop
  | .start => s.waiters = 0 ∧ s.t = .none ∧ s.conn = none ∧ s.cancelReq = false
  | .w1 => s.waiters = 1 ∧ s.t ≠ .none ∧ (s.conn = none ∨ s.t = .finished) ∧ s.cancelReq = false
  | .w2 => s.waiters = 1 ∧ s.t = .finished ∧ (s.conn = none ↔ s.closing = true) ∧ s.cancelReq = false
  | .exited => s.waiters = 0 ∧ (s.t = .none ∨ s.t = .finished ∨ s.cancelReq = true) ∧ s.conn = none

/-- the inductive invariant: at most the transport that `_connection` holds is live; that connection
    is live or lost, not both, and was numbered by the factory; and `phaseOf` at the program counter -/
structure Inv (s : S) : Prop where
  live1 : s.live = [] ∨ ∃ c, s.live = [c] ∧ s.conn = some c
  conn1 : ∀ c, s.conn = some c → c < s.nextId ∧ (c ∈ s.live ∨ c ∈ s.doneSet) ∧ (c ∈ s.live → c ∉ s.doneSet)
  doneLt : ∀ c ∈ s.doneSet, c < s.nextId
  phase : phaseOf s s.lpc

namespace Inv
variable {s : S} (hi : Inv s)
include hi

theorem at_pc {p : LPc} (hl : s.lpc = p) : phaseOf s p := hl ▸ hi.phase

theorem cancelReq_false (hl : s.lpc ≠ .exited) : s.cancelReq = false := by
  cases h : s.lpc with
  | start | w1 | w2 => exact (hi.at_pc h).2.2.2
  | exited => exact absurd h hl

theorem exited_of_cancelReq (hc : s.cancelReq = true) : s.lpc = .exited :=
  Decidable.by_contra fun hl => nomatch (hi.cancelReq_false hl).symm.trans hc

theorem live_nil (h : ∀ c, s.conn = some c → c ∉ s.live) : s.live = [] := by
  rcases hi.live1 with h0 | ⟨c, hl, hc⟩
  · exact h0
  · exact absurd (hl ▸ List.mem_singleton_self c) (h c hc)

theorem filter_live {c : Nat} (hc : s.conn = some c) : s.live.filter (· != c) = [] := by
  rcases hi.live1 with h0 | ⟨c', hl, hc'⟩
  · rw [h0]; rfl
  · cases hc.symm.trans hc'
    rw [hl]; simp

/-- a cancelled connect task may outlive connect_loop: hence the guard on `cancelReq` -/
theorem pending (h : running s) :
    s.conn = none ∧ s.live = [] ∧ (s.cancelReq = false → s.lpc = .w1) := by
  have ⟨ht, hf⟩ : s.t ≠ .none ∧ s.t ≠ .finished := by
    rcases h with h | ⟨u, h⟩ | h <;> rw [h] <;> exact ⟨nofun, nofun⟩
  have key : s.conn = none ∧ (s.cancelReq = false → s.lpc = .w1) := by
    cases hl : s.lpc with
    | start => exact absurd (hi.at_pc hl).2.1 ht
    | w1 => exact ⟨(hi.at_pc hl).2.2.1.resolve_right hf, fun _ => rfl⟩
    | w2 => exact absurd (hi.at_pc hl).2.1 hf
    | exited =>
      have ⟨_, h, hcn⟩ := hi.at_pc hl
      exact ⟨hcn, fun hc => nomatch hc.symm.trans ((h.resolve_left ht).resolve_left hf)⟩
  exact ⟨key.1, hi.live_nil (fun c hc => nomatch key.1.symm.trans hc), key.2⟩

theorem active_of_ready (hr : ready s) (hc : s.cancelReq = false) (hcl : s.closing = false) : active s :=
  ⟨hcl, fun h => nomatch ((hi.pending hr.running).2.2 hc).symm.trans h⟩

theorem conn_finished {c : Nat} (hc : s.conn = some c) : s.t = .finished :=
  Decidable.by_contra fun hf => by
    cases hl : s.lpc with
    | start => exact nomatch hc.symm.trans (hi.at_pc hl).2.2.1
    | w1 => exact hf ((hi.at_pc hl).2.2.1.resolve_left fun h => nomatch hc.symm.trans h)
    | w2 => exact hf (hi.at_pc hl).2.1
    | exited => exact nomatch hc.symm.trans (hi.at_pc hl).2.2

/-- serves `sleep`, `giveUp` and `attempt`; `lg` is whatever the step logs -/
theorem setT (h : running s) (hc : s.cancelReq = false) (t' : TSt) (ht' : t' ≠ .none)
    (lg : List (Nat × Ev)) : Inv { s with t := t', log := lg } :=
  have ⟨hcn, _, hl⟩ := hi.pending h
  have hl := hl hc
  { hi with phase := by dsimp only; rw [hl]; exact ⟨(hi.at_pc hl).1, ht', .inl hcn, hc⟩ }

theorem close {lv : List Nat} (hlv : lv = []) (lg : List (Nat × Ev)) :
    Inv { s with closing := true, conn := none, live := lv, log := lg } where
  live1 := .inl hlv
  conn1 := nofun
  doneLt := hi.doneLt
  phase := by
    dsimp only
    cases hl : s.lpc with
    | start => exact ⟨(hi.at_pc hl).1, (hi.at_pc hl).2.1, rfl, (hi.at_pc hl).2.2.2⟩
    | w1 => exact ⟨(hi.at_pc hl).1, (hi.at_pc hl).2.1, .inl rfl, (hi.at_pc hl).2.2.2⟩
    | w2 => exact ⟨(hi.at_pc hl).1, (hi.at_pc hl).2.1, ⟨fun _ => rfl, fun _ => rfl⟩, (hi.at_pc hl).2.2.2⟩
    | exited => exact ⟨(hi.at_pc hl).1, (hi.at_pc hl).2.1, rfl⟩

theorem not_stuck (hl : s.lpc ≠ .exited) :
    (∃ s', next s .lRun = some s') ∨ (∃ s', next s .tRun = some s') ∨ (∃ u, s.t = .sleeping u) ∨
    s.t = .inFactory ∨ (s.lpc = .w2 ∧ ∃ c, s.conn = some c ∧ c ∈ s.live) := by
  cases hcl : s.closing with
  | true => exact .inl ((exit_enabled hcl hl).imp fun _ => And.left)
  | false =>
    have hcr := hi.cancelReq_false hl
    cases hlpc : s.lpc with
    | exited => exact absurd hlpc hl
    | start => exact .inl ⟨_, step_next (.startSpawn hlpc hcl)⟩
    | w1 =>
      cases ht : s.t with
      | none => exact absurd ht (hi.at_pc hlpc).2.1
      | sleeping u => exact .inr (.inr (.inl ⟨u, rfl⟩))
      | inFactory => exact .inr (.inr (.inr (.inl rfl)))
      | created =>
        refine .inr (.inl ?_)
        rcases Nat.eq_zero_or_pos (getBackOffTime s.backoff s.breaker) with h0 | hp
        · exact ⟨_, step_next (afterSleep_step hcr (.inl ⟨ht, h0⟩))⟩
        · exact ⟨_, step_next (.sleep hcr ht hp)⟩
      | finished =>
        cases hcn : s.conn with
        | none => exact .inl ⟨_, step_next (.retry hlpc ht hcl hcn)⟩
        | some c => exact .inl ⟨_, step_next (.connected c hlpc ht hcl hcn)⟩
    | w2 =>
      cases hcn : s.conn with
      | none => exact nomatch hcl.symm.trans ((hi.at_pc hlpc).2.2.1.1 hcn)
      | some c =>
        rcases (hi.conn1 c hcn).2.1 with hlv | hd
        · exact .inr (.inr (.inr (.inr ⟨rfl, c, rfl, hlv⟩)))
        · exact .inl ⟨_, step_next (.lossSeen c hlpc hcl hcn hd)⟩

end Inv

theorem inv_init (md th sl : Nat) : Inv (S.init md th sl) := by
  constructor <;> simp [S.init, phaseOf]

theorem inv_step {s s' : S} {l : Label} (hi : Inv s) (h : Step s l s') : Inv s' := by
  cases h with
  | startExit hl hcl =>
    have ⟨hw, ht, hcn, _⟩ := hi.at_pc hl
    exact { hi with phase := ⟨hw, .inl ht, hcn⟩ }
  | startSpawn hl hcl =>
    have ⟨hw, _, hcn, _⟩ := hi.at_pc hl
    exact { hi with phase := ⟨congrArg (· + 1) hw, nofun, .inl hcn, rfl⟩ }
  | connected c hl ht hcl hcn =>
    exact { hi with phase := ⟨congrArg (· - 1 + 1) (hi.at_pc hl).1, ht,
      ⟨(fun h => nomatch hcn.symm.trans h), (fun h => nomatch hcl.symm.trans h)⟩, rfl⟩ }
  | retry hl ht hcl hcn =>
    exact { hi with phase := ⟨congrArg (· - 1 + 1) (hi.at_pc hl).1, nofun, .inl hcn, rfl⟩ }
  | w1Exit hl hcl hcn =>
    exact { hi with phase := ⟨congrArg (· - 1) (hi.at_pc hl).1,
      .inr ((Decidable.em (s.t = .finished)).imp_right decide_eq_true), hcn⟩ }
  | w1CloseExit c hl hcl hcn =>
    exact { hi with
      live1 := .inl (hi.filter_live hcn)
      conn1 := nofun
      phase := ⟨congrArg (· - 1) (hi.at_pc hl).1,
        .inr ((Decidable.em (s.t = .finished)).imp_right decide_eq_true), rfl⟩ }
  | w2Exit hl hcl =>
    have ⟨hw, ht, hcn, _⟩ := hi.at_pc hl
    exact { hi with
      live1 := .inl (hi.live_nil fun _ h => nomatch (hcn.2 hcl).symm.trans h)
      conn1 := nofun
      phase := ⟨congrArg (· - 1) hw, .inr (.inl ht), rfl⟩ }
  | lossSeen c hl hcl hcn hd =>
    exact { hi with
      live1 := .inl (hi.live_nil fun c' h hm => (hi.conn1 c' h).2.2 hm (Option.some.inj (hcn.symm.trans h) ▸ hd))
      conn1 := nofun
      phase := ⟨congrArg (· - 1 + 1) (hi.at_pc hl).1, nofun, .inl rfl, rfl⟩ }
  | cancelled hc ht =>
    have hl := hi.exited_of_cancelReq hc
    exact { hi with phase := by dsimp only; rw [hl]; exact ⟨(hi.at_pc hl).1, .inr (.inl rfl), (hi.at_pc hl).2.2⟩ }
  | sleep hc ht hp => exact hi.setT (.inl ht) hc (.sleeping _) nofun _
  | giveUp hc hr hcl => exact hi.setT hr.running hc .finished nofun _
  | attempt hc hr hcl => exact hi.setT hr.running hc .inFactory nofun _
  | factoryOk ht hc =>
    have ⟨_, hnil, hl⟩ := hi.pending (.inr (.inr ht))
    have hl := hl hc
    exact {
      live1 := .inr ⟨s.nextId, congrArg (· ++ [s.nextId]) hnil, rfl⟩
      conn1 := fun c h => Option.some.inj h ▸ ⟨Nat.lt_succ_self _,
        .inl (List.mem_append_right _ (List.mem_singleton_self _)), fun _ hd => Nat.lt_irrefl _ (hi.doneLt _ hd)⟩
      doneLt := fun c h => Nat.lt_succ_of_lt (hi.doneLt c h)
      phase := by dsimp only; rw [hl]; exact ⟨(hi.at_pc hl).1, nofun, .inr rfl, hc⟩ }
  | factoryFail ht hc =>
    have ⟨_, hnil, hl⟩ := hi.pending (.inr (.inr ht))
    have hl := hl hc
    exact { hi with
      live1 := .inl hnil
      conn1 := nofun
      phase := by dsimp only; rw [hl]; exact ⟨(hi.at_pc hl).1, nofun, .inl rfl, hc⟩ }
  | lose c hcn hm =>
    have hnil := hi.filter_live hcn
    exact { hi with
      live1 := .inl hnil
      conn1 := fun c' h => Option.some.inj (hcn.symm.trans h) ▸ ⟨(hi.conn1 c hcn).1,
        .inr (List.mem_append_right _ (List.mem_singleton_self c)),
        fun h => absurd h (List.eq_nil_iff_forall_not_mem.1 hnil c)⟩
      doneLt := fun x h => (List.mem_append.1 h).elim (hi.doneLt x) fun h => List.mem_singleton.1 h ▸ (hi.conn1 c hcn).1 }
  | closeIdle h => exact hi.close (hi.live_nil h) _
  | closeLive c hcn hm => exact hi.close (hi.filter_live hcn) _
  | tick d => exact { hi with }

theorem reach_inv {md th sl : Nat} {s : S} (h : Reach md th sl s) : Inv s :=
  h.induct (inv_init md th sl) fun _ => inv_step

def runLabels (s : S) : List Label → Option S
  | [] => some s
  | l :: ls => (next s l).bind (fun s' => runLabels s' ls)

theorem runLabels_cons {s s1 : S} {l : Label} (h : next s l = some s1) (ls : List Label) :
    runLabels s (l :: ls) = runLabels s1 ls := by
  rw [runLabels, h]; rfl

theorem runLabels_append (s : S) (a b : List Label) :
    runLabels s (a ++ b) = (runLabels s a).bind (fun s' => runLabels s' b) := by
  induction a generalizing s with
  | nil => rfl
  | cons l a ih =>
    simp only [List.cons_append, runLabels]
    cases next s l with
    | none => rfl
    | some s1 => simpa using ih s1

theorem reach_runLabels {md th sl : Nat} (s s' : S) (ls : List Label) (h : Reach md th sl s)
    (hr : runLabels s ls = some s') : Reach md th sl s' := by
  induction ls generalizing s with
  | nil => simp [runLabels] at hr; subst hr; exact h
  | cons l ls ih =>
    cases hn : next s l with
    | none => simp [runLabels, hn] at hr
    | some s1 => exact ih s1 (Reach.step s s1 l h hn) (runLabels_cons hn ls ▸ hr)

/-- the shape the examples need: `h` is closed by evaluating the run -/
theorem reach_of_run {md th sl : Nat} (ls : List Label) {P : S → Prop}
    (h : ∃ s, runLabels (S.init md th sl) ls = some s ∧ P s) : ∃ s, Reach md th sl s ∧ P s :=
  have ⟨s, hs, hp⟩ := h
  ⟨s, reach_runLabels _ _ _ Reach.init hs, hp⟩

end Amshan.ConnMgr
