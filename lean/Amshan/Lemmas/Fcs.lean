import Amshan.Model.Fcs
import Amshan.Spec.Rfc1662
import Amshan.Lemmas.Basic
/-
  The table-driven FCS-16 step is the bit-serial step of RFC 1662, and two steps over the trailer are
  sixteen serial shifts.  The serial shift `f` is xor-linear and halves an even register, so `n` shifts
  act on the low `n` bits only and pass the rest down unchanged.  The only evaluation is the comparison
  of the 256 table entries.
-/
namespace Amshan.FcsLemmas
open Amshan.Gen Amshan.Rfc1662

theorem xor_cancel_right {a b c : Nat} (h : a ^^^ c = b ^^^ c) : a = b := by
  have := congrArg (· ^^^ c) h
  simpa [Nat.xor_assoc, Nat.xor_self, Nat.xor_zero] using this

theorem xor_cancel_left {a b c : Nat} (h : c ^^^ a = c ^^^ b) : a = b := by
  rw [Nat.xor_comm c a, Nat.xor_comm c b] at h
  exact xor_cancel_right h

theorem xor_eq_zero {a b : Nat} (h : a ^^^ b = 0) : a = b :=
  xor_cancel_right (c := b) (by rw [h, Nat.xor_self])

theorem eq_xor_comm {a b c : Nat} : a = b ^^^ c ↔ c = b ^^^ a := by
  constructor <;> (rintro rfl; rw [← Nat.xor_assoc, Nat.xor_self, Nat.zero_xor])

theorem xor_mod2 (x y : Nat) : (x ^^^ y) % 2 = (x % 2 + y % 2) % 2 := by
  have h := Nat.xor_mod_two_pow (a := x) (b := y) (n := 1)
  rw [Nat.pow_one] at h
  rw [h]
  rcases Nat.mod_two_eq_zero_or_one x with hx | hx <;> rcases Nat.mod_two_eq_zero_or_one y with hy | hy <;>
    rw [hx, hy] <;> rfl

/-- a value below `2 ^ n` and a multiple of `2 ^ n` share no bit: xor is addition -/
theorem xor_two_pow_mul {n a : Nat} (b : Nat) (ha : a < 2 ^ n) : a ^^^ 2 ^ n * b = 2 ^ n * b + a := by
  apply Nat.eq_of_testBit_eq
  intro i
  rw [Nat.testBit_xor, Nat.testBit_two_pow_mul_add _ ha, Nat.testBit_two_pow_mul]
  by_cases hi : i < n
  · simp [hi, Nat.not_le.mpr hi]
  · have : a.testBit i = false :=
      Nat.testBit_lt_two_pow (Nat.lt_of_lt_of_le ha (Nat.pow_le_pow_right (by decide) (Nat.le_of_not_lt hi)))
    simp [hi, Nat.le_of_not_lt hi, this]

theorem mod_xor_div (n x : Nat) : x % 2 ^ n ^^^ 2 ^ n * (x / 2 ^ n) = x := by
  rw [xor_two_pow_mul _ (Nat.mod_lt _ (Nat.two_pow_pos n)), Nat.div_add_mod]

/-- one shift of a reflected CRC register with polynomial `p` -/
def shiftXor (p x : Nat) : Nat := if x % 2 = 1 then (x >>> 1) ^^^ p else x >>> 1

theorem shiftXor_lin (p x y : Nat) : shiftXor p (x ^^^ y) = shiftXor p x ^^^ shiftXor p y := by
  unfold shiftXor
  rw [xor_mod2, Nat.shiftRight_xor_distrib]
  rcases Nat.mod_two_eq_zero_or_one x with hx | hx <;>
  rcases Nat.mod_two_eq_zero_or_one y with hy | hy <;>
  simp [hx, hy]
  · ac_rfl
  · ac_rfl
  · rw [Nat.xor_assoc, Nat.xor_comm (y >>> 1), ← Nat.xor_assoc p, Nat.xor_self, Nat.zero_xor]

theorem shiftXor_lt {p : Nat} (hp : p < 2 ^ 16) {x : Nat} (h : x < 2 ^ 16) : shiftXor p x < 2 ^ 16 := by
  unfold shiftXor
  have h1 : x >>> 1 < 2 ^ 16 := by rw [Nat.shiftRight_eq_div_pow]; omega
  split
  · exact Nat.xor_lt_two_pow h1 hp
  · exact h1

/-- The top bit of the polynomial is set and a 16-bit register shifted right has it clear, so the
    xor never cancels: the shift has trivial kernel, and by linearity is injective. -/
theorem shiftXor_inj {p : Nat} (hp : 2 ^ 15 ≤ p) {x y : Nat} (hx : x < 2 ^ 16) (hy : y < 2 ^ 16)
    (h : shiftXor p x = shiftXor p y) : x = y := by
  have h0 : shiftXor p (x ^^^ y) = 0 := by rw [shiftXor_lin, h, Nat.xor_self]
  have hlt : x ^^^ y < 2 ^ 16 := Nat.xor_lt_two_pow hx hy
  apply xor_eq_zero
  unfold shiftXor at h0
  rw [Nat.shiftRight_eq_div_pow] at h0
  split at h0
  · have := xor_eq_zero h0
    omega
  · omega

/-- one serial shift of the register (message bit already xor-ed in): `shiftXor poly` -/
def f (x : Nat) : Nat := if x % 2 = 1 then (x >>> 1) ^^^ poly else x >>> 1

def iter : Nat → Nat → Nat
  | 0, x => x
  | n + 1, x => iter n (f x)

theorem f_lin (x y : Nat) : f (x ^^^ y) = f x ^^^ f y := shiftXor_lin poly x y

theorem iter_lin (n x y : Nat) : iter n (x ^^^ y) = iter n x ^^^ iter n y := by
  induction n generalizing x y with
  | zero => rfl
  | succ n ih => simp only [iter, f_lin, ih]

theorem iter_add (m n x : Nat) : iter (m + n) x = iter n (iter m x) := by
  induction m generalizing x with
  | zero => simp [iter]
  | succ m ih => simp only [Nat.succ_add, iter, ih]

theorem f_zero : f 0 = 0 := by decide
theorem iter_zero (n : Nat) : iter n 0 = 0 := by
  induction n with
  | zero => rfl
  | succ n ih => simp only [iter, f_zero, ih]

theorem f_lt (x : Nat) (h : x < 65536) : f x < 65536 := shiftXor_lt (p := poly) (by decide) h

theorem iter_lt (n x : Nat) (h : x < 65536) : iter n x < 65536 := by
  induction n generalizing x with
  | zero => exact h
  | succ n ih => exact ih _ (f_lt x h)

theorem iter_inj (n x y : Nat) (hx : x < 65536) (hy : y < 65536) (h : iter n x = iter n y) : x = y := by
  induction n generalizing x y with
  | zero => exact h
  | succ n ih =>
    exact shiftXor_inj (p := poly) (by decide) hx hy (ih _ _ (f_lt x hx) (f_lt y hy) h)

theorem f_two_mul (x : Nat) : f (2 * x) = x := by
  unfold f
  rw [if_neg (by omega), Nat.shiftRight_eq_div_pow]
  omega

theorem iter_two_pow_mul (n x : Nat) : iter n (2 ^ n * x) = x := by
  induction n with
  | zero => rw [iter, Nat.pow_zero, Nat.one_mul]
  | succ n ih => rw [iter, Nat.pow_succ, Nat.mul_comm (2 ^ n), Nat.mul_assoc, f_two_mul, ih]

theorem iter_split (n x : Nat) : iter n x = iter n (x % 2 ^ n) ^^^ x / 2 ^ n := by
  conv => lhs; rw [← mod_xor_div n x]
  rw [iter_lin, iter_two_pow_mul]

theorem xor_octet_lt {r b : Nat} (hr : r < 65536) (hb : b < 256) : r ^^^ b < 65536 :=
  Nat.xor_lt_two_pow (n := 16) hr (by omega)

/-- `step` xors the octet into the 16-bit register and then applies `F`, which is injective on 16-bit
    values and keeps them 16-bit.  Both checksums of the library are of this kind. -/
structure ByteStep (step : Nat → Nat → Nat) (F : Nat → Nat) : Prop where
  eq : ∀ r b, b < 256 → step r b = F (r ^^^ b)
  lt : ∀ x, x < 65536 → F x < 65536
  inj : ∀ x y, x < 65536 → y < 65536 → F x = F y → x = y

namespace ByteStep
variable {step : Nat → Nat → Nat} {F : Nat → Nat} (S : ByteStep step F)
include S

theorem step_lt {r b : Nat} (hr : r < 65536) (hb : b < 256) : step r b < 65536 := by
  rw [S.eq r b hb]
  exact S.lt _ (xor_octet_lt hr hb)

theorem inj_register {r r' b : Nat} (hr : r < 65536) (hr' : r' < 65536) (hb : b < 256)
    (h : step r b = step r' b) : r = r' := by
  rw [S.eq r b hb, S.eq r' b hb] at h
  exact xor_cancel_right (S.inj _ _ (xor_octet_lt hr hb) (xor_octet_lt hr' hb) h)

theorem inj_octet {r b b' : Nat} (hr : r < 65536) (hb : b < 256) (hb' : b' < 256)
    (h : step r b = step r b') : b = b' := by
  rw [S.eq r b hb, S.eq r b' hb'] at h
  exact xor_cancel_left (S.inj _ _ (xor_octet_lt hr hb) (xor_octet_lt hr hb') h)

theorem foldl_lt {bs : List Nat} {r : Nat} (hr : r < 65536) (h : Octets bs) : bs.foldl step r < 65536 :=
  foldl_lt_of_step (fun _ _ => S.step_lt) hr h

theorem foldl_inj_register {bs : List Nat} {r r' : Nat} (hr : r < 65536) (hr' : r' < 65536)
    (h : Octets bs) (e : bs.foldl step r = bs.foldl step r') : r = r' := by
  induction bs generalizing r r' with
  | nil => exact e
  | cons b bs ih =>
    obtain ⟨hb, hbs⟩ := Octets_cons.mp h
    exact S.inj_register hr hr' hb (ih (S.step_lt hr hb) (S.step_lt hr' hb) hbs e)

theorem foldl_congr {step' : Nat → Nat → Nat} (S' : ByteStep step' F) {bs : List Nat} (r : Nat)
    (h : Octets bs) : bs.foldl step r = bs.foldl step' r := by
  induction bs generalizing r with
  | nil => rfl
  | cons b bs ih =>
    obtain ⟨hb, hbs⟩ := Octets_cons.mp h
    rw [List.foldl_cons, List.foldl_cons, S'.eq r b hb, ← S.eq r b hb]
    exact ih _ hbs

theorem one_octet_ne {p s : List Nat} {x y r : Nat} (hr : r < 65536) (hp : Octets p) (hs : Octets s)
    (hx : x < 256) (hy : y < 256) (hne : x ≠ y) :
    (p ++ x :: s).foldl step r ≠ (p ++ y :: s).foldl step r := by
  intro e
  rw [List.foldl_append, List.foldl_append, List.foldl_cons, List.foldl_cons] at e
  have hq := S.foldl_lt hr hp
  exact hne (S.inj_octet hq hx hy
    (S.foldl_inj_register (S.step_lt hq hx) (S.step_lt hq hy) hs e))

end ByteStep

theorem stepBit_eq (crc bit : Nat) (hb : bit < 2) : stepBit crc bit = f (crc ^^^ bit) := by
  unfold stepBit f
  have : (crc ^^^ bit) >>> 1 = crc >>> 1 := by
    rw [Nat.shiftRight_xor_distrib]
    have : bit >>> 1 = 0 := by rw [Nat.shiftRight_eq_div_pow]; omega
    rw [this, Nat.xor_zero]
  rw [this]

theorem f_xor_byte (crc byte : Nat) : f (crc ^^^ byte) = stepBit crc (byte % 2) ^^^ (byte / 2) := by
  rw [stepBit_eq _ _ (Nat.mod_lt _ (by decide))]
  conv => lhs; rw [← mod_xor_div 1 byte, ← Nat.xor_assoc, f_lin, Nat.pow_one, f_two_mul]

theorem stepBits_eq (n crc byte : Nat) : stepBits n crc byte ^^^ (byte / 2 ^ n) = iter n (crc ^^^ byte) := by
  induction n generalizing crc byte with
  | zero => simp [stepBits, iter]
  | succ n ih =>
    simp only [stepBits, iter]
    rw [f_xor_byte, ← ih, Nat.div_div_eq_div_mul, Nat.pow_succ, Nat.mul_comm]

theorem stepSerial_eq (crc byte : Nat) (hb : byte < 256) : stepSerial crc byte = iter 8 (crc ^^^ byte) := by
  have := stepBits_eq 8 crc byte
  have h0 : byte / 2 ^ 8 = 0 := by
    apply Nat.div_eq_of_lt; simpa using hb
  rw [h0, Nat.xor_zero] at this
  exact this

theorem table_length : fcsTable.length = 256 := by decide +kernel

set_option maxRecDepth 8192 in
theorem table_eq : fcsTable = (List.range 256).map (iter 8) := by decide +kernel

theorem table_get (i : Nat) (h : i < 256) : fcsTable.getD i 0 = iter 8 i := by
  rw [table_eq]
  simp [List.getD, h]

theorem next_eq_iter (r b : Nat) (hb : b < 256) : Fcs.next r b = iter 8 (r ^^^ b) := by
  have hd : (r ^^^ b) / 2 ^ 8 = r >>> 8 := by
    rw [Nat.xor_div_two_pow, Nat.div_eq_of_lt hb, Nat.xor_zero, Nat.shiftRight_eq_div_pow]
  rw [iter_split 8, hd, Nat.xor_comm]
  unfold Fcs.next
  rw [and_mask8, table_get _ (Nat.mod_lt _ (by decide))]

theorem next_byteStep : ByteStep Fcs.next (iter 8) := ⟨next_eq_iter, iter_lt 8, iter_inj 8⟩

theorem stepSerial_byteStep : ByteStep stepSerial (iter 8) :=
  ⟨stepSerial_eq, iter_lt 8, iter_inj 8⟩

theorem next_lt (r b : Nat) (hr : r < 65536) (hb : b < 256) : Fcs.next r b < 65536 :=
  next_byteStep.step_lt hr hb

theorem feed_lt (r : Nat) (bs : List Nat) (hr : r < 65536) (h : Octets bs) : Fcs.feed r bs < 65536 :=
  next_byteStep.foldl_lt hr h

theorem feed_append (r : Nat) (a b : List Nat) : Fcs.feed r (a ++ b) = Fcs.feed (Fcs.feed r a) b := by
  simp [Fcs.feed, List.foldl_append]

theorem two_steps (r t0 t1 : Nat) (h0 : t0 < 256) (h1 : t1 < 256) :
    Fcs.next (Fcs.next r t0) t1 = iter 16 (r ^^^ (t0 + 256 * t1)) := by
  rw [next_eq_iter _ _ h1, next_eq_iter r t0 h0, Nat.add_comm, ← xor_two_pow_mul (n := 8) t1 h0,
    iter_add 8 8, ← Nat.xor_assoc, iter_lin 8 (r ^^^ t0), iter_two_pow_mul]

theorem good_const : iter 16 0xFFFF = fcsGood := by decide +kernel

theorem isGood_iff {r : Nat} : Fcs.isGood r = true ↔ fcsGood = r := beq_iff_eq

end Amshan.FcsLemmas
