import Amshan.Model.P1Defs
import Amshan.Lemmas.Fcs
/-
  The CRC loop of `_calculate_crc16` is CRC-16/ARC, and stays below 2^16.
-/
namespace Amshan.P1L
open Amshan.Gen Amshan.P1 Amshan.P1Spec Amshan.Py

theorem crcBit_eq_crcShift (crc : Nat) : crcBit crc = crcShift crc := by
  unfold crcBit crcShift
  have h : crc >>> 1 = crc / 2 := by rw [Nat.shiftRight_eq_div_pow]
  rw [Nat.and_one_is_mod, h]
  rfl

theorem crcBits_eq_crcShifts (n crc : Nat) : crcBits n crc = crcShifts n crc := by
  induction n generalizing crc with
  | zero => rfl
  | succ n ih => simp only [crcBits, crcShifts, crcBit_eq_crcShift, ih]

theorem crcByte_eq (crc b : Nat) : crcByte crc b = crcShifts 8 (crc ^^^ b) := by
  unfold crcByte; exact crcBits_eq_crcShifts _ _

theorem crc16_eq_arc (bs : List Nat) : crc16 bs = crc16Arc bs := by
  unfold crc16 crc16Arc
  have : crcByte = (fun crc b => crcShifts 8 (crc ^^^ b)) := by
    funext crc b; exact crcByte_eq crc b
  rw [this]

theorem crcShift_eq (x : Nat) : crcShift x = FcsLemmas.shiftXor 0xA001 x := by
  unfold crcShift FcsLemmas.shiftXor
  rw [Nat.shiftRight_eq_div_pow, Nat.pow_one]

theorem crcShift_lt (crc : Nat) (h : crc < 65536) : crcShift crc < 65536 :=
  crcShift_eq crc ▸ FcsLemmas.shiftXor_lt (by decide) h

theorem crcShifts_lt (n crc : Nat) (h : crc < 65536) : crcShifts n crc < 65536 := by
  induction n generalizing crc with
  | zero => exact h
  | succ n ih => exact ih _ (crcShift_lt _ h)

theorem crc16Arc_foldl_lt (bs : List Nat) (h : Octets bs) (c : Nat) (hc : c < 65536) :
    bs.foldl (fun crc b => crcShifts 8 (crc ^^^ b)) c < 65536 :=
  foldl_lt_of_step (fun _ _ hr hb => crcShifts_lt 8 _ (FcsLemmas.xor_octet_lt hr hb)) hc h

theorem crc16Arc_lt (bs : List Nat) (h : Octets bs) : crc16Arc bs < 65536 :=
  crc16Arc_foldl_lt bs h 0 (by decide)

end Amshan.P1L
