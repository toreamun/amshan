import Amshan.Lemmas.P1ParseRTTerm
/-
  One rendered line is parsed back.  That the line continues with `x` at position `pos` is written
  `line.drop pos = x ++ rest`; the position behind `x` is then `pos + x.length` (`drop_past`).  Each loop
  is followed one iteration at a time (`valuesLoop_step`, `lineLoop_step`) over what was rendered.
-/
open Amshan Amshan.Gen Amshan.Cosem Amshan.P1Parse Amshan.P1BlockSpec Amshan.Py
namespace Amshan.P1ParseRT

theorem all_plain {xs : List Nat} (h : xs.all plainChar = true) :
    ∀ c ∈ xs, c ≠ 40 ∧ c ≠ 41 ∧ c ≠ 42 ∧ 32 < c ∧ c ≤ 126 := by
  intro c hc
  have := List.all_eq_true.mp h c hc
  simp only [plainChar, Bool.and_eq_true, decide_eq_true_eq, bne_iff_ne, ne_eq] at this
  omega

theorem findFrom_drop {line mid rest : List Nat} {c s : Nat} (hd : line.drop s = mid ++ rest)
    (hc : rest.head? = some c) (h : ∀ x ∈ mid, x ≠ c) : findFrom line c s = some (s + mid.length) := by
  cases rest with
  | nil => cases hc
  | cons c' rest =>
    cases hc
    rw [findFrom, hd, P1L.find_append_of_not_mem mid rest c fun hm => h c hm rfl, Option.map_some, Nat.add_comm]

theorem slice_drop {line mid rest : List Nat} {s : Nat} (hd : line.drop s = mid ++ rest) :
    slice line s (s + mid.length) = mid := by
  rw [slice, List.drop_take, hd, Nat.add_sub_cancel_left, List.take_left' rfl]

theorem drop_past {line x rest : List Nat} {s : Nat} (hd : line.drop s = x ++ rest) :
    line.drop (s + x.length) = rest := by
  rw [← List.drop_drop, hd, List.drop_left]

theorem length_of_drop {line x : List Nat} {s : Nat} (hd : line.drop s = x) (hx : x ≠ []) :
    line.length = s + x.length := by
  have := congrArg List.length hd
  have := List.length_pos_iff.2 hx
  rw [List.length_drop] at *
  omega

theorem splitOn_go_append (c : Nat) (s rest : List Nat) (h : ∀ x ∈ s, x ≠ c) :
    ∀ cur, splitOn.go c (s ++ rest) cur = splitOn.go c rest (s.reverse ++ cur) := by
  induction s with
  | nil => intro cur; rfl
  | cons a t ih =>
    intro cur
    rw [List.cons_append, splitOn.go, if_neg (by simpa using h a (by simp)), ih fun x hx => h x (by simp [hx])]
    simp

/-- what the parser returns for a value, for a data set -/
def parsedValue (v : ValueDesc) : DataSetValue := ⟨v.value, v.unit⟩
def parsedSet (d : DataSetDesc) : DataSet := ⟨d.address, d.values.map parsedValue⟩

/-- the text between the parentheses -/
def valueBody (v : ValueDesc) : List Nat := v.value ++ (match v.unit with | some u => [42] ++ u | none => [])

theorem renderValue_eq (v : ValueDesc) : renderValue v = 40 :: (valueBody v ++ [41]) := by
  cases v with
  | mk val unit => cases unit <;> simp [renderValue, valueBody]

theorem renderValue_length (v : ValueDesc) : (renderValue v).length = (valueBody v).length + 2 := by
  simp [renderValue_eq]

abbrev printable (c : Nat) : Prop := 32 < c ∧ c ≤ 126

theorem valueBody_chars {v : ValueDesc} (h : v.WF) : ∀ x ∈ valueBody v, x ≠ 41 ∧ printable x := by
  obtain ⟨h1, h2⟩ := h
  intro x hx
  unfold valueBody at hx
  rw [List.mem_append] at hx
  rcases hx with hx | hx
  · exact ⟨(all_plain h1 x hx).2.1, (all_plain h1 x hx).2.2.2⟩
  · cases hu : v.unit with
    | none => rw [hu] at hx; simp at hx
    | some u =>
      rw [hu] at hx h2
      simp only [List.cons_append, List.nil_append, List.mem_cons] at hx
      rcases hx with rfl | hx
      · exact ⟨by omega, by omega, by omega⟩
      · exact ⟨(all_plain h2 x hx).2.1, (all_plain h2 x hx).2.2.2⟩

theorem parseValue_body {v : ValueDesc} (h : v.WF) : parseValue (valueBody v) = .ok (parsedValue v) := by
  obtain ⟨h1, h2⟩ := h
  have hv : ∀ x ∈ v.value, x ≠ 42 := fun x hx => (all_plain h1 x hx).2.2.1
  unfold parseValue valueBody splitOn parsedValue
  rw [splitOn_go_append 42 _ _ hv]
  cases hu : v.unit with
  | none => simp [splitOn.go]
  | some u =>
    rw [hu] at h2
    have := splitOn_go_append 42 u [] (fun x hx => (all_plain h2 x hx).2.2.1) []
    rw [List.append_nil] at this
    simp [splitOn.go, this]

theorem valuesLoop_step {line rest : List Nat} {pos : Nat} {v : ValueDesc} (hd : line.drop pos = renderValue v ++ rest)
    (hw : v.WF) (fuel : Nat) (acc : List DataSetValue) (it : Nat) :
    valuesLoop line (fuel + 1) pos acc it =
      if rest = [] then .ok (none, acc ++ [parsedValue v], it + 1)
      else if rest.head? != some 40 then .ok (some (pos + (renderValue v).length), acc ++ [parsedValue v], it + 1)
      else valuesLoop line fuel (pos + (renderValue v).length) (acc ++ [parsedValue v]) (it + 1) := by
  have hd1 : line.drop pos = (40 :: valueBody v) ++ 41 :: rest := by rw [hd, renderValue_eq]; simp
  have h40 : line[pos]? = some 40 := by rw [← List.head?_drop, hd1]; rfl
  have hfind : findFrom line 41 pos = some (pos + (valueBody v).length + 1) :=
    findFrom_drop hd1 rfl fun x hx => by
      rcases List.mem_cons.1 hx with rfl | hx
      · decide
      · exact (valueBody_chars hw x hx).1
  have hslice : slice line (pos + 1) (pos + (valueBody v).length + 1) = valueBody v := by
    rw [Nat.add_right_comm]
    exact slice_drop (drop_past (x := [40]) hd1)
  have hhead : line[pos + (renderValue v).length]? = rest.head? := by rw [← List.head?_drop, drop_past hd]
  have hlen := length_of_drop hd (by rw [renderValue_eq]; nofun)
  have hnext : pos + (valueBody v).length + 1 + 1 = pos + (renderValue v).length := by rw [renderValue_length]; omega
  rw [valuesLoop]
  simp only [h40, bne_self_eq_false, Bool.false_eq_true, if_false, hfind, hslice, parseValue_body hw, hnext, hhead]
  rw [List.length_append] at hlen
  by_cases hr : rest = []
  · subst hr
    simp [hlen]
  · have : rest.length ≠ 0 := fun h => hr (List.length_eq_zero_iff.mp h)
    simp only [show ¬ pos + (renderValue v).length = line.length by omega, hr, if_false]

theorem renderValues_head (v : ValueDesc) (vs : List ValueDesc) (rest : List Nat) :
    ((v :: vs).flatMap renderValue ++ rest).head? = some 40 := by
  rw [List.flatMap_cons, List.append_assoc, renderValue_eq]
  rfl

theorem valuesLoop_values (line tail : List Nat) (htail : tail.head? ≠ some 40) :
    ∀ (vs : List ValueDesc) (v : ValueDesc) (pos : Nat) (acc : List DataSetValue) (it fuel : Nat),
      line.drop pos = (v :: vs).flatMap renderValue ++ tail → (∀ w ∈ v :: vs, w.WF) →
      ((v :: vs).flatMap renderValue ++ tail).length < fuel →
      valuesLoop line fuel pos acc it =
        .ok (if tail = [] then none else some (pos + ((v :: vs).flatMap renderValue).length),
             acc ++ (v :: vs).map parsedValue, it + vs.length + 1) := by
  intro vs
  induction vs with
  | nil =>
    intro v pos acc it fuel hd hw hf
    cases fuel with
    | zero => omega
    | succ fuel =>
      simp only [List.flatMap_cons, List.flatMap_nil, List.append_nil] at hd ⊢
      rw [valuesLoop_step hd (hw v (by simp))]
      by_cases ht : tail = []
      · simp [ht]
      · have : (tail.head? != some 40) = true := by simp [htail]
        simp [ht, this]
  | cons v' vs ih =>
    intro v pos acc it fuel hd hw hf
    cases fuel with
    | zero => omega
    | succ fuel =>
      rw [List.flatMap_cons, List.append_assoc] at hd
      have hh := renderValues_head v' vs tail
      have hne : ((v' :: vs).flatMap renderValue ++ tail) ≠ [] := fun h => by rw [h] at hh; cases hh
      rw [valuesLoop_step hd (hw v (by simp)), if_neg hne, hh, bne_self_eq_false, if_neg Bool.false_ne_true,
        ih v' _ _ _ fuel (drop_past hd) (fun w hw' => hw w (by simp [hw']))
          (by
            have := renderValue_length v
            simp only [List.flatMap_cons, List.length_append] at hf ⊢
            omega)]
      simp only [List.flatMap_cons, List.length_append, List.map_cons, List.append_assoc, List.cons_append,
        List.nil_append, List.length_cons, Nat.add_assoc]
      congr 3
      omega

theorem renderSet_length_pos {d : DataSetDesc} (h : d.WF) : 0 < (renderSet d).length := by
  rw [renderSet, List.length_append]
  exact Nat.lt_of_lt_of_le (List.length_pos_iff.2 h.1) (Nat.le_add_right ..)

theorem renderSet_head_ne {d : DataSetDesc} (h : d.WF) (rest : List Nat) :
    (renderSet d ++ rest).head? ≠ some 40 ∧ renderSet d ++ rest ≠ [] := by
  obtain ⟨h1, h2, _⟩ := h
  unfold renderSet
  cases ha : d.address with
  | nil => exact absurd ha h1
  | cons a t =>
    rw [ha] at h2
    have := (all_plain h2 a (by simp)).1
    simp [this]

theorem getAddressAndValues_set {line tail : List Nat} {pos : Nat} {d : DataSetDesc}
    (hd : line.drop pos = renderSet d ++ tail) (hw : d.WF) (htail : tail.head? ≠ some 40) :
    getAddressAndValues line pos =
      .ok (if tail = [] then none else some (pos + (renderSet d).length), some d.address,
           d.values.map parsedValue, d.values.length) := by
  obtain ⟨h1, h2, h3, h4⟩ := hw
  cases hv : d.values with
  | nil => exact absurd hv h3
  | cons v vs =>
    rw [hv] at h4
    rw [renderSet, hv, List.append_assoc] at hd
    have hfind : findFrom line 40 pos = some (pos + d.address.length) :=
      findFrom_drop hd (renderValues_head v vs tail) fun x hx => (all_plain h2 x hx).1
    have hapos : 0 < d.address.length := List.length_pos_iff.2 h1
    have hvl := valuesLoop_values line tail htail vs v _ [] 0 (line.length + 1) (drop_past hd) h4
      (by
        have := congrArg List.length (drop_past hd)
        rw [List.length_drop] at this
        omega)
    unfold getAddressAndValues
    have hgt : pos + d.address.length > pos := by omega
    have hgt0 : pos + d.address.length > 0 := by omega
    simp only [hfind, slice_drop hd, hgt, if_true, hgt0]
    rw [hvl]
    simp only [List.nil_append, List.map_cons, List.isEmpty_cons, Bool.false_eq_true, if_false, Nat.zero_add,
      List.length_cons, renderSet, hv, List.length_append, Nat.add_assoc]

theorem lineLoop_step {line tail : List Nat} {pos : Nat} {d : DataSetDesc}
    (hd : line.drop pos = renderSet d ++ tail) (hw : d.WF) (htail : tail.head? ≠ some 40)
    (fuel : Nat) (items : List DataSet) (iters : Nat) :
    lineLoop line (fuel + 1) pos items iters =
      if tail = [] then .ok (items ++ [parsedSet d], iters + d.values.length + 1)
      else lineLoop line fuel (pos + (renderSet d).length) (items ++ [parsedSet d]) (iters + d.values.length + 1) := by
  have hvne : (d.values.map parsedValue).isEmpty = false := by
    cases hv : d.values with
    | nil => exact absurd hv hw.2.2.1
    | cons a t => rfl
  conv => lhs; unfold lineLoop
  rw [getAddressAndValues_set hd hw htail]
  simp only [hvne, Bool.false_eq_true, if_false]
  by_cases ht : tail = []
  · simp only [ht, if_true]; rfl
  · simp only [ht, if_false]; rfl

theorem lineLoop_sets (line : List Nat) :
    ∀ (ds : List DataSetDesc) (d : DataSetDesc) (pos : Nat) (items : List DataSet) (iters fuel : Nat),
      line.drop pos = (d :: ds).flatMap renderSet → (∀ w ∈ d :: ds, w.WF) →
      ((d :: ds).flatMap renderSet).length < fuel →
      ∃ n, lineLoop line fuel pos items iters = .ok (items ++ (d :: ds).map parsedSet, n) := by
  intro ds
  induction ds with
  | nil =>
    intro d pos items iters fuel hd hw hf
    cases fuel with
    | zero => omega
    | succ fuel =>
      rw [List.flatMap_cons, List.flatMap_nil] at hd
      rw [lineLoop_step hd (hw d (by simp)) nofun, if_pos rfl]
      exact ⟨_, rfl⟩
  | cons d' ds ih =>
    intro d pos items iters fuel hd hw hf
    cases fuel with
    | zero => omega
    | succ fuel =>
      rw [List.flatMap_cons] at hd
      have hh := renderSet_head_ne (hw d' (by simp)) (ds.flatMap renderSet)
      rw [← List.flatMap_cons] at hh
      rw [lineLoop_step hd (hw d (by simp)) hh.1, if_neg hh.2]
      obtain ⟨n, hn⟩ := ih d' _ (items ++ [parsedSet d]) (iters + d.values.length + 1) fuel
        (drop_past hd) (fun w hw' => hw w (by simp [hw']))
        (by
          have := renderSet_length_pos (hw d (by simp))
          simp only [List.flatMap_cons, List.length_append] at hf ⊢
          omega)
      exact ⟨n, by rw [hn, List.map_cons, List.append_assoc]; rfl⟩

end Amshan.P1ParseRT
