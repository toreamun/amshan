import Amshan.Lemmas.HdlcFrame
import Amshan.Lemmas.HdlcRun
/-
  Lifting statements about the octet-at-a-time machine `run` to the entry point `read()`: for a reader
  reachable by `read()` calls, the frames returned by any further calls are those of one `run` over the
  concatenated chunks (`Reachable.frames_eq_run`).
-/
namespace Amshan.Hdlc
open Amshan.Gen Amshan.HdlcSpec

/-- readers reachable from a new reader by `read()` calls on byte strings (every element `< 256`, as
    for Python `bytes`) -/
def ReachableOct (cfg : Cfg) (r : Reader) : Prop :=
  ∃ chunks : List (List Nat), Octets chunks.flatten ∧ r = (readAll cfg Reader.init chunks).1

theorem ReachableOct.init (cfg : Cfg) : ReachableOct cfg Reader.init := ⟨[], Octets_nil, rfl⟩

theorem ReachableOct.reachable {cfg : Cfg} {r : Reader} (h : ReachableOct cfg r) : Reachable cfg r := by
  obtain ⟨cs, _, e⟩ := h
  exact ⟨cs, e⟩

theorem ReachableOct.buf_empty {cfg : Cfg} {r : Reader} (h : ReachableOct cfg r) : r.buf = Buf.empty :=
  h.reachable.buf_empty

theorem ReachableOct.coreInv {cfg : Cfg} {r : Reader} (h : ReachableOct cfg r) : CoreInv r.core := by
  obtain ⟨cs, ho, rfl⟩ := h
  rw [readAll_core cfg Reader.init cs Reader.init_buf]
  exact (run_inv cfg Core.init cs.flatten CoreInv_init ho).2

theorem readAll_append (cfg : Cfg) (r : Reader) (a b : List (List Nat)) :
    readAll cfg r (a ++ b) =
      ((readAll cfg (readAll cfg r a).1 b).1,
       (readAll cfg r a).2 ++ (readAll cfg (readAll cfg r a).1 b).2) := by
  induction a generalizing r with
  | nil => simp only [List.nil_append, readAll_nil]
  | cons ch chs ih => simp only [List.cons_append, readAll_cons, ih]

theorem Reachable.readAll {cfg : Cfg} {r : Reader} (h : Reachable cfg r) (cs : List (List Nat)) :
    Reachable cfg (readAll cfg r cs).1 := by
  obtain ⟨hist, rfl⟩ := h
  exact ⟨hist ++ cs, by rw [readAll_append]⟩

theorem ReachableOct.readAll {cfg : Cfg} {r : Reader} (h : ReachableOct cfg r) (cs : List (List Nat))
    (hcs : Octets cs.flatten) : ReachableOct cfg (readAll cfg r cs).1 := by
  obtain ⟨hist, hh, rfl⟩ := h
  exact ⟨hist ++ cs, by rw [List.flatten_append]; exact Octets_append.mpr ⟨hh, hcs⟩, by rw [readAll_append]⟩

theorem Reachable.frames_eq_run {cfg : Cfg} {r : Reader} (h : Reachable cfg r) (cs : List (List Nat)) :
    (Hdlc.readAll cfg r cs).2.flatten = (run cfg r.core cs.flatten).2 :=
  readAll_frames cfg r cs h.buf_empty

theorem ReachableOct.frames_eq_run {cfg : Cfg} {r : Reader} (h : ReachableOct cfg r) (cs : List (List Nat)) :
    (Hdlc.readAll cfg r cs).2.flatten = (run cfg r.core cs.flatten).2 :=
  h.reachable.frames_eq_run cs

theorem ReachableOct.frames_inv {cfg : Cfg} {r : Reader} (h : ReachableOct cfg r) (cs : List (List Nat))
    (hcs : Octets cs.flatten) : ∀ f ∈ (Hdlc.readAll cfg r cs).2.flatten, FrameInv f := by
  rw [h.frames_eq_run cs]
  exact (run_inv cfg r.core cs.flatten h.coreInv hcs).1

end Amshan.Hdlc
