import Amshan.Lemmas.ConnMgrPacing
/-
  State invariants behind the trace-level pacing theorems of C18 (Props/C18Trace.lean): the clock and
  configuration facts `PBase`, and `PFail`, which ties the strategy object and the connect task's
  timer to the monitor's reading of the log.
-/
namespace Amshan.ConnMgr
open Amshan.BackOff

structure PBase (md th sl : Nat) (s : S) : Prop where
  cfgMd : s.backoff.maxDelay = md
  cfgTh : s.breaker.threshold = th
  cfgSl : s.breaker.sleepSec = sl
  times : ∀ x ∈ s.log, x.1 ≤ s.now
  lossU : ∀ x, s.breaker.lastLoss = some x → ∃ u, x = u * 1000000 ∧ u ≤ s.now

theorem pbase_init (md th sl : Nat) : PBase md th sl (S.init md th sl) := by
  constructor <;> simp [S.init, Strategy.new]

theorem pbase_step {md th sl : Nat} {s s' : S} {l : Label} (hb : PBase md th sl s) (h : Step s l s') :
    PBase md th sl s' := by
  obtain ⟨h1, h2, h3, h4, h7⟩ := h.frame
  obtain ⟨es, h5, _⟩ := h.log
  refine ⟨h1.trans hb.cfgMd, h2.trans hb.cfgTh, h3.trans hb.cfgSl, fun x hx => ?_, fun x hx => ?_⟩
  · rcases List.mem_append.1 (h5 ▸ hx) with hx | hx
    · exact Nat.le_trans (hb.times x hx) h4
    · obtain ⟨e, _, rfl⟩ := List.mem_map.1 hx
      exact h4
  · rcases h7 with h7 | h7 <;> rw [h7] at hx
    · obtain ⟨u, hu, hle⟩ := hb.lossU x hx
      exact ⟨u, hu, Nat.le_trans hle h4⟩
    · cases hx
      exact ⟨s.now, rfl, h4⟩

theorem reach_pbase {md th sl : Nat} {s : S} (h : Reach md th sl s) : PBase md th sl s :=
  h.induct (pbase_init md th sl) fun _ => pbase_step

/-- the failure side: the manager's back-off state against the monitor's count, and the monitor's
    not-before time against the connect task: nothing is owed while the factory runs, a sleeping task
    wakes at `u`, and otherwise the next task will sleep `current_delay_sec` at least -/
structure PFail (md : Nat) (s : S) : Prop where
  delay : s.backoff.delay = pow2pred (Mon.run md Mon.zero s.log).n
  chk : Checked md (fun m t => m.nb ≤ t) Mon.zero s.log
  timer : active s → match s.t with
    | .inFactory => (Mon.run md Mon.zero s.log).nb = 0
    | .sleeping u => (Mon.run md Mon.zero s.log).nb ≤ u
    | _ => (Mon.run md Mon.zero s.log).nb ≤ s.now + s.backoff.current

theorem pfail_init (md th sl : Nat) : PFail md (S.init md th sl) := by
  constructor <;> simp [S.init, Strategy.new, Mon.zero, pow2pred, Checked]

/-- once the manager has stopped reconnecting only the two facts about the log remain, and the events of
    close() and of connect_loop's return do not move the monitor -/
theorem PFail.inactive {md : Nat} {s s' : S} (hf : PFail md s) (hn : ¬ active s') (hb : s'.backoff = s.backoff)
    {l : List (Nat × Ev)} (hl : s'.log = s.log ++ l) (hq : l.all (·.2.quiet) = true) : PFail md s' where
  delay := by rw [hb, hl, Mon.run_append, Mon.run_quiet md _ l hq]; exact hf.delay
  chk := hl ▸ hf.chk.append_quiet hq
  timer := fun ha => absurd ha hn

theorem pfail_step {md th sl : Nat} {s s' : S} {l : Label} (hi : Inv s) (hb : PBase md th sl s) (hf : PFail md s)
    (h : Step s l s') : PFail md s' := by
  cases h
  case startExit | w1Exit | w2Exit | w1CloseExit => exact hf.inactive (fun ha => ha.2 rfl) rfl rfl rfl
  case closeIdle | closeLive => exact hf.inactive (fun ha => nomatch ha.1) rfl rfl rfl
  case cancelled hc _ => exact hf.inactive (fun ha => ha.2 (hi.exited_of_cancelReq hc)) rfl (List.append_nil _).symm rfl
  case giveUp hcl => exact hf.inactive (fun ha => nomatch ha.1.symm.trans hcl) rfl (List.append_nil _).symm rfl
  case startSpawn hl hcl | lossSeen hl hcl _ _ =>
    -- the old connect task is absent / finished (`phaseOf`), the new one is `created`: the same row of `timer`
    have := hf.timer ⟨hcl, fun h => nomatch hl.symm.trans h⟩
    rw [(hi.at_pc hl).2.1] at this
    exact { hf with timer := fun _ => this }
  case retry hl ht hcl _ =>
    have := hf.timer ⟨hcl, fun h => nomatch hl.symm.trans h⟩
    rw [ht] at this
    exact { hf with timer := fun _ => this }
  case connected hl _ hcl _ => exact { hf with timer := fun _ => hf.timer ⟨hcl, fun h => nomatch hl.symm.trans h⟩ }
  case sleep hc ht hp =>
    refine { hf with timer := fun ha => ?_ }
    have := hf.timer ha
    rw [ht] at this
    exact Nat.le_trans this (Nat.add_le_add_left (current_le_getBackOffTime ..) _)
  case attempt hc hr hcl =>
    have := hf.timer (hi.active_of_ready hr hc hcl)
    -- the timer has been served: nothing to sleep (`current ≤ _get_back_off_time() = 0`), or woken at `u ≤ now`
    have key : (Mon.run md Mon.zero s.log).nb ≤ s.now := by
      rcases hr with ⟨ht, h0⟩ | ⟨u, hu, hle⟩
      · rw [ht] at this
        have := current_le_getBackOffTime s.backoff s.breaker
        omega
      · rw [hu] at this
        exact Nat.le_trans this hle
    exact {
      delay := by simp only [Mon.run_snoc]; exact hf.delay
      chk := hf.chk.snoc fun _ => key
      timer := fun _ => by simp only [Mon.run_snoc]; rfl }
  case factoryOk ht hc =>
    exact {
      delay := by simp only [Mon.run_snoc]; rfl
      chk := hf.chk.snoc nofun
      timer := fun ha => by
        have := hf.timer ha
        rw [ht] at this
        simp only [Mon.run_snoc]
        exact Nat.le_trans (Nat.le_of_eq this) (Nat.zero_le _) }
  case factoryFail ht hc =>
    have hd := failure_delay s.backoff _ hf.delay
    exact {
      delay := by simp only [Mon.run_snoc]; exact hd
      chk := hf.chk.snoc nofun
      timer := fun ha => by
        -- the new not-before time `now + min (2^n) max_delay` is `now +` the new `current_delay_sec`
        have := hf.timer ha
        rw [ht] at this
        simp only [Mon.run_snoc]
        show max _ (s.now + min (2 ^ _) md) ≤ s.now + s.backoff.failure.current
        rw [this, current_eq_min, hd, pow2pred_succ, show s.backoff.failure.maxDelay = md from hb.cfgMd]
        exact Nat.max_le.2 ⟨Nat.zero_le _, Nat.le_refl _⟩ }
  case lose =>
    exact {
      delay := by simp only [Mon.run_snoc]; exact hf.delay
      chk := hf.chk.snoc nofun
      timer := by simp only [Mon.run_snoc]; exact hf.timer }
  case tick d =>
    refine { hf with timer := fun ha => ?_ }
    have := hf.timer ha
    cases ht : s.t <;> simp only [ht] at this ⊢ <;> omega

theorem reach_pfail {md th sl : Nat} {s : S} (h : Reach md th sl s) : PFail md s :=
  h.induct (pfail_init md th sl) fun hr => pfail_step (reach_inv hr) (reach_pbase hr)

end Amshan.ConnMgr
