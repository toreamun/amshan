import Amshan.Model.Kaifa
import Amshan.Spec.Lists
import Amshan.Lemmas.CosemDT
/-
  Kaifa positional and OBIS-tagged lists read back (C08).  Parsing: the encoded values are read back
  one by one (`fields`, `GreedyRange(obisElement)`), and a well-formed positional list is not taken
  for an OBIS-tagged one, which `Select` tries first: its first value is a register or a text that is
  not six characters long.  Normalisation: each loop is the fold that the specification writes
  (`loop_foldl` where the loop carries no index), given what the scaling table holds.
-/
namespace Amshan.KaifaRT
open Amshan.Gen Amshan.Cosem Amshan.ListSpec Amshan.CosemDT

def isNul (c : Nat) : Bool := c == 0

def toField : KVal → FieldVal
  | .text s => .str s
  | .u32 v => .int v
  | .clock d => .dt (expectedDT d)

theorem field_encKVal (v : KVal) (h : v.WF) (r : List Nat) :
    field (encKVal v ++ r) = .ok (toField v) r := by
  cases v with
  | text s => exact field_text_enc s h.1 r
  | u32 v => exact field_u32_enc v h r
  | clock d => exact datetime_in_field d h r

theorem fields_enc (vs : List KVal) (h : ∀ v ∈ vs, v.WF) (trail : List Nat) :
    Kaifa.fields vs.length (vs.flatMap encKVal ++ trail) = .ok (vs.map toField) trail := by
  induction vs with
  | nil => rfl
  | cons v vs ih =>
    rw [List.length_cons, Kaifa.fields, List.flatMap_cons, List.append_assoc,
      field_encKVal v (h v List.mem_cons_self), bind_ok, ih fun w hw => h w (List.mem_cons_of_mem _ hw)]
    rfl

theorem valueBody_enc (vs : List KVal) (h : ∀ v ∈ vs, v.WF) (trail : List Nat) :
    Kaifa.valueBody (encKaifaValues vs ++ trail) = .ok (.values (vs.map toField)) trail := by
  unfold Kaifa.valueBody encKaifaValues
  simp only [List.cons_append, List.nil_append, tStructure_eq, constByte_cons, bind_ok, u8_cons,
    fields_enc vs h trail]

theorem kaifa_isGreedy : IsGreedy Kaifa.obisElement Kaifa.greedyObis :=
  ⟨fun _ => rfl, fun f s => by rw [Kaifa.greedyObis]; cases Kaifa.obisElement s <;> rfl⟩

theorem obisElement_enc (o : List Nat) (ho : o.length = 6) (v : KVal) (hv : v.WF) (r : List Nat) :
    Kaifa.obisElement (encObis o ++ encKVal v ++ r) = .ok (o, toField v) r := by
  unfold Kaifa.obisElement
  rw [List.append_assoc, obisField_enc o ho, bind_ok, field_encKVal v hv r, bind_ok]

theorem obisElement_nil : Kaifa.obisElement [] = .soft := rfl

theorem notificationBody_obis (es : List (List Nat × KVal)) (h : ∀ p ∈ es, Obis6 p.1 ∧ p.2.WF) :
    Kaifa.notificationBody (encKaifaObis es) = .ok (.obis (es.map fun p => (p.1, toField p.2))) [] := by
  have hg := kaifa_isGreedy.enc obisElement_nil (dec := fun p : List Nat × KVal => (p.1, toField p.2)) es
    (fun p hp ys => obisElement_enc p.1 (h p hp).1.1 p.2 (h p hp).2 _) _ (Nat.lt_add_one _)
  unfold Kaifa.notificationBody Kaifa.select Kaifa.obisBody encKaifaObis
  simp only [List.cons_append, List.nil_append, tStructure_eq, constByte_cons, bind_ok, u8_cons, hg,
    List.length_map, if_true]

theorem layout_cases {n : Nat} {names : List String} (e : kaifaLayout n = some names) :
    n ∈ [1, 9, 13, 14, 18] := by
  apply Decidable.byContradiction
  intro hn
  simp only [List.mem_cons, List.not_mem_nil, or_false, not_or] at hn
  simp [kaifaLayout, hn] at e

theorem layout_ind (P : Nat → List String → Prop)
    (h : ∀ n ∈ [1, 9, 13, 14, 18], P n ((kaifaLayout n).getD [])) :
    ∀ n names, kaifaLayout n = some names → P n names := by
  intro n names e
  have := h n (layout_cases e)
  rw [e] at this
  exact this

theorem layout_find : ∀ n names, kaifaLayout n = some names →
    kaifaFieldLists.find? (fun l => l.length == n) = some names := by
  apply layout_ind
  decide

theorem layout_length : ∀ n names, kaifaLayout n = some names → names.length = n := by
  apply layout_ind
  decide

theorem layout_head4 : ∀ n names, kaifaLayout n = some names →
    (n = 1 ∧ names.getD 0 "" = "active_power_import") ∨
    (4 ≤ n ∧ names.getD 0 "" = "list_ver_id" ∧ names.getD 1 "" = "meter_id" ∧ names.getD 2 "" = "meter_type" ∧
      names.getD 3 "" = "active_power_import") := by
  apply layout_ind
  decide

theorem obisElement_wants : Wants 9 Kaifa.obisElement := obisField_wants.bind _

theorem obisElement_u32_soft (v : Nat) (r : List Nat) :
    Kaifa.obisElement (encKVal (.u32 v) ++ r) = .soft :=
  obisElement_wants _ (by simp [encKVal])

theorem obisElement_text_soft (s : List Nat) (h : s.length ≠ 6) (r : List Nat) :
    Kaifa.obisElement (encKVal (.text s) ++ r) = .soft := by
  simp [Kaifa.obisElement, obisField, constByte, encKVal, Res.bind, h]

theorem posOk_text {name : String} {v : KVal} (h : kaifaPosOk name v)
    (hn : name = "list_ver_id" ∨ name = "meter_id" ∨ name = "meter_type") : ∃ s, v = .text s := by
  cases v with
  | text s => exact ⟨s, rfl⟩
  | u32 z => rcases hn with hn | hn | hn <;> simp [kaifaPosOk, hn] at h
  | clock d => rcases hn with hn | hn | hn <;> simp [kaifaPosOk, hn] at h

theorem posOk_reg {v : KVal} (h : kaifaPosOk "active_power_import" v) : ∃ z, v = .u32 z := by
  cases v with
  | u32 z => exact ⟨z, rfl⟩
  | text s => simp [kaifaPosOk] at h
  | clock d => simp [kaifaPosOk] at h

theorem values_head4 {vs : List KVal} (h : KaifaValuesWF vs) :
    (∃ v, vs = [.u32 v]) ∨
    ∃ s0 s1 s2 v rest, vs = .text s0 :: .text s1 :: .text s2 :: .u32 v :: rest ∧ s0.length ≠ 6 ∧
      printable s0 ∧ printable s1 ∧ printable s2 := by
  obtain ⟨names, hl, hwf, hp⟩ := h
  rcases layout_head4 _ _ hl with ⟨h1, hn⟩ | ⟨h4, n0, n1, n2, n3⟩
  · match vs, h1, hp with
    | [v0], _, hp =>
      have q0 : kaifaPosOk (names.getD 0 "") v0 := hp 0 (by simp)
      obtain ⟨z, rfl⟩ := posOk_reg (hn ▸ q0)
      exact .inl ⟨z, rfl⟩
  · match vs, h4, hp, hwf with
    | v0 :: v1 :: v2 :: v3 :: rest, _, hp, hwf =>
      have q0 : kaifaPosOk (names.getD 0 "") v0 := hp 0 (by simp)
      have q1 : kaifaPosOk (names.getD 1 "") v1 := hp 1 (by simp)
      have q2 : kaifaPosOk (names.getD 2 "") v2 := hp 2 (by simp)
      have q3 : kaifaPosOk (names.getD 3 "") v3 := hp 3 (by simp)
      obtain ⟨s0, rfl⟩ := posOk_text q0 (.inl n0)
      obtain ⟨s1, rfl⟩ := posOk_text q1 (.inr (.inl n1))
      obtain ⟨s2, rfl⟩ := posOk_text q2 (.inr (.inr n2))
      obtain ⟨z, rfl⟩ := posOk_reg (n3 ▸ q3)
      have h6 := q0
      rw [n0] at h6
      simp [kaifaPosOk] at h6
      exact .inr ⟨s0, s1, s2, z, rest, rfl, h6, (hwf (.text s0) (by simp)).1, (hwf (.text s1) (by simp)).1,
        (hwf (.text s2) (by simp)).1⟩

theorem obisBody_values_soft (vs : List KVal) (h : KaifaValuesWF vs) (trail : List Nat) :
    Kaifa.obisBody (encKaifaValues vs ++ trail) = .soft := by
  obtain ⟨v0, rest, rfl, hs⟩ : ∃ v0 rest, vs = v0 :: rest ∧
      Kaifa.obisElement (encKVal v0 ++ (rest.flatMap encKVal ++ trail)) = .soft := by
    rcases values_head4 h with ⟨v, rfl⟩ | ⟨s0, _, _, _, _, rfl, h6, _⟩
    · exact ⟨_, _, rfl, obisElement_u32_soft v _⟩
    · exact ⟨_, _, rfl, obisElement_text_soft s0 h6 _⟩
  rw [← List.append_assoc, ← List.flatMap_cons] at hs
  unfold Kaifa.obisBody encKaifaValues
  simp only [List.cons_append, List.nil_append, tStructure_eq, constByte_cons, bind_ok, u8_cons]
  rw [kaifa_isGreedy.stop _ hs, bind_ok]
  simp

theorem notificationBody_values (vs : List KVal) (h : KaifaValuesWF vs) (trail : List Nat) :
    Kaifa.notificationBody (encKaifaValues vs ++ trail) = .ok (.values (vs.map toField)) trail := by
  unfold Kaifa.notificationBody Kaifa.select
  rw [obisBody_values_soft vs h trail, valueBody_enc vs h.choose_spec.2.1 trail]

theorem wants_select {α : Type} {t : Nat} {p q : List Nat → Res α} (hp : Wants t p) (hq : Wants t q) :
    Wants t (Kaifa.select p q) := by
  intro s h
  unfold Kaifa.select
  rw [hp s h, hq s h]

theorem obisBody_wants : Wants 2 Kaifa.obisBody := tStructure_eq ▸ wants_constByte tStructure _
theorem valueBody_wants : Wants 2 Kaifa.valueBody := tStructure_eq ▸ wants_constByte tStructure _

theorem llcPdu_header (hd : Header) (hh : hd.WF) (s : List Nat) :
    Kaifa.llcPdu (encHeader hd ++ s) =
      (Kaifa.notificationBody s).bind fun b r => .ok (clockOf hd.clock, b) r := by
  unfold Kaifa.llcPdu Kaifa.notificationBody Kaifa.select
  rw [llc_clock hd hh, llc_clock hd hh]
  cases Kaifa.obisBody s <;> cases Kaifa.valueBody s <;> rfl

theorem decodeFrame_header (hd : Header) (hh : hd.WF) (s : List Nat) :
    Kaifa.decodeFrame (encHeader hd ++ s) =
      match Kaifa.notificationBody s with
      | .ok (.values vs) _ => Kaifa.outOf (Kaifa.normValues (some (clockOf hd.clock)) vs)
      | .ok (.obis es) _ => Kaifa.outOf (Kaifa.normObis es)
      | .py e => .exc e
      | _ => .construct := by
  unfold Kaifa.decodeFrame
  rw [llcPdu_header hd hh]
  cases Kaifa.notificationBody s with
  | ok b r => cases b <;> rfl
  | soft => rfl
  | explicit => rfl
  | py e => rfl

/-- the floating-point fact C08 and C09 assume (`C08.ScaledCorrect` and `C09.ScaledCorrect` unfold to
    it; discharged in Props/C08Final.lean, C09Final.lean, so that these files need no Mathlib) -/
def ScaledOK : Prop :=
  ∀ (v : Nat) (s : Nat), v < 4294967296 → (s = 1 ∨ s = 2 ∨ s = 3) →
    Flt.roundDigits (Flt.mul (Flt.ofInt v) (Flt.tenPowNeg s)) s = Flt.ofRat false v (10 ^ s)

theorem loop_foldl {σ χ : Type} {loop : List σ → Dict → Except PyExc Dict} (hnil : ∀ d, loop [] d = .ok d)
    {conv : χ → σ} {f : Dict → χ → Dict} :
    ∀ (xs : List χ) (d : Dict), (∀ x ∈ xs, ∀ rest d, loop (conv x :: rest) d = loop rest (f d x)) →
      loop (xs.map conv) d = .ok (xs.foldl f d) := by
  intro xs
  induction xs with
  | nil => intro d _; exact hnil d
  | cons x xs ih =>
    intro d h
    rw [List.map_cons, h x List.mem_cons_self, ih _ fun y hy => h y (List.mem_cons_of_mem _ hy)]
    rfl

theorem scaled_neg (hF : ScaledOK) (z : Nat) (hz : z < 4294967296) (s : Nat) (hs : s = 1 ∨ s = 2 ∨ s = 3) :
    Kaifa.scaled (z : Int) (-(s : Int)) = divPow10 z s := by
  have hneg : (-(s : Int)) < 0 := by omega
  have ht : (- -(s : Int)).toNat = s := by omega
  simp only [Kaifa.scaled, hneg, if_true, ht, divPow10, hF z s hz hs]

theorem kaifaScaling_eq : kaifaScaling =
    [("current_l1", -3), ("current_l2", -3), ("current_l3", -3),
     ("voltage_l1", -1), ("voltage_l2", -1), ("voltage_l3", -1)] := by decide

theorem plainValue_int (hF : ScaledOK) (name : String) (v : Nat) (hv : v < 4294967296) :
    Kaifa.plainValue name (.int v) = .ok (kaifaScaled name v) := by
  unfold Kaifa.plainValue Kaifa.scaleOf kaifaScaled
  by_cases hc : name = "current_l1" ∨ name = "current_l2" ∨ name = "current_l3"
  · have hl : kaifaScaling.lookup name = some (-((3 : Nat) : Int)) := by rcases hc with rfl | rfl | rfl <;> decide
    rw [hl, if_pos hc]
    exact congrArg _ (scaled_neg hF v hv 3 (by simp))
  · by_cases hu : name = "voltage_l1" ∨ name = "voltage_l2" ∨ name = "voltage_l3"
    · have hl : kaifaScaling.lookup name = some (-((1 : Nat) : Int)) := by rcases hu with rfl | rfl | rfl <;> decide
      rw [hl, if_neg hc, if_pos hu]
      exact congrArg _ (scaled_neg hF v hv 1 (by simp))
    · have hl : kaifaScaling.lookup name = none := by
        apply P1L.lookup_none
        rw [kaifaScaling_eq]
        simp only [not_or] at hc hu
        simp [hc, hu]
      rw [hl, if_neg hc, if_neg hu]

theorem plainValue_str (name : String) (s : List Nat) (h : kaifaScaling.lookup name = none) :
    Kaifa.plainValue name (.str s) = .ok (.str s) := by
  unfold Kaifa.plainValue Kaifa.scaleOf
  rw [h]

theorem normValuesLoop_step (hF : ScaledOK) (names : List String) (i : Nat) (v : KVal) (fs : List FieldVal)
    (d : Dict) (name : String) (hn : names[i]? = some name) (hwf : v.WF) (hpos : kaifaPosOk name v) :
    Kaifa.normValuesLoop names i (toField v :: fs) d =
      Kaifa.normValuesLoop names (i + 1) fs (d.set name (kaifaVal name v)) := by
  rw [Kaifa.normValuesLoop]
  simp only [hn]
  cases v with
  | text s =>
    simp only [kaifaPosOk] at hpos
    have ⟨hne, hl⟩ : (name == field_METER_DATETIME) = false ∧ kaifaScaling.lookup name = none := by
      rcases hpos with ⟨h, _⟩ | h | h <;> subst h <;> decide
    simp only [hne, toField, plainValue_str name s hl, kaifaVal]
    simp
  | u32 z =>
    simp only [kaifaPosOk] at hpos
    have hne : (name == field_METER_DATETIME) = false := by
      simp only [beq_eq_false_iff_ne, field_METER_DATETIME]; exact hpos.2.2.2
    simp only [hne, toField, plainValue_int hF name z hwf, kaifaVal]
    simp
  | clock t =>
    simp only [kaifaPosOk] at hpos
    subst hpos
    simp only [toField, kaifaVal]
    simp [field_METER_DATETIME]

theorem normValuesLoop_ok (hF : ScaledOK) (names : List String) :
    ∀ (vs : List KVal) (i : Nat) (d : Dict), i + vs.length ≤ names.length →
      (∀ p ∈ (names.drop i).zip vs, p.2.WF ∧ kaifaPosOk p.1 p.2) →
      Kaifa.normValuesLoop names i (vs.map toField) d =
        .ok (((names.drop i).zip vs).foldl (fun d p => d.set p.1 (kaifaVal p.1 p.2)) d) := by
  intro vs
  induction vs with
  | nil => intro i d _ _; simp [Kaifa.normValuesLoop]
  | cons v vs ih =>
    intro i d hlen h
    rw [List.length_cons] at hlen
    have hi : i < names.length := by omega
    rw [List.drop_eq_getElem_cons hi, List.zip_cons_cons] at h ⊢
    obtain ⟨⟨hwf, hpos⟩, ht⟩ := List.forall_mem_cons.1 h
    rw [List.map_cons, normValuesLoop_step hF names i v _ d names[i] (List.getElem?_eq_getElem hi) hwf hpos,
      ih (i + 1) _ (by omega) ht, List.foldl_cons]

theorem normValues_ok (hF : ScaledOK) (vs : List KVal) (h : KaifaValuesWF vs) (apdu : Option DT) :
    Kaifa.normValues (apdu.map .dt) (vs.map toField) = .ok (kaifaValuesExpected apdu vs) := by
  obtain ⟨names, hl, hwf, hpos⟩ := h
  have hlen := layout_length _ _ hl
  unfold Kaifa.normValues kaifaValuesExpected
  simp only [List.length_map, layout_find _ _ hl, hl, Option.getD_some]
  -- what `KaifaValuesWF` says position by position, said of the pairs that the fold runs over
  have hz : ∀ p ∈ names.zip vs, p.2.WF ∧ kaifaPosOk p.1 p.2 := fun p hp => by
    obtain ⟨j, hj, rfl⟩ := List.mem_iff_getElem.1 hp
    have hj' : j < vs.length := by rw [List.length_zip] at hj; omega
    have := hpos j hj'
    rw [List.getD_eq_getElem?_getD, List.getElem?_eq_getElem (by omega)] at this
    rw [List.getElem_zip]
    exact ⟨hwf _ (List.getElem_mem _), this⟩
  have key := fun d => normValuesLoop_ok hF names vs 0 d (by omega) hz
  simp only [List.drop_zero] at key
  cases apdu <;> simp only [Option.map, key] <;> rfl

theorem normObisLoop_step (hF : ScaledOK) (o : List Nat) (ho : o.length = 6) (v : KVal) (hv : v.WF)
    (hs : (kaifaScaling.lookup (obisName o)).isSome → ∃ z, v = .u32 z)
    (fs : List (List Nat × FieldVal)) (d : Dict) :
    Kaifa.normObisLoop ((o, toField v) :: fs) d =
      Kaifa.normObisLoop fs (d.set (obisName o) (kaifaVal (obisName o) v)) := by
  obtain ⟨a, b, c, dd, e, f, rfl⟩ := obis6_cases ho
  -- the definition as a whole: the equation of `normObisLoop` for a cons would make Lean split the
  -- six-octet pattern into all its cases
  rw [Kaifa.normObisLoop.eq_def]
  cases v with
  | text s =>
    have hl : kaifaScaling.lookup (fieldName c dd e) = none := by
      cases hq : kaifaScaling.lookup (fieldName c dd e) with
      | none => rfl
      | some x =>
        obtain ⟨z, hz⟩ := hs (by rw [obisName, hq]; rfl)
        cases hz
    simp only [toField, plainValue_str _ s hl, kaifaVal, obisName]
  | u32 z => simp only [toField, plainValue_int hF _ z hv, kaifaVal, obisName]
  | clock t => simp only [toField, kaifaVal, obisName]

theorem normObis_ok (hF : ScaledOK) (es : List (List Nat × KVal)) (h : ∀ p ∈ es, Obis6 p.1 ∧ p.2.WF)
    (hs : ∀ p ∈ es, (kaifaScaling.lookup (obisName p.1)).isSome → ∃ v, p.2 = .u32 v) :
    Kaifa.normObis (es.map fun p => (p.1, toField p.2)) = .ok (kaifaObisExpected es) :=
  loop_foldl (loop := Kaifa.normObisLoop) (fun _ => rfl) es _ fun p hp =>
    normObisLoop_step hF p.1 (h p hp).1.1 p.2 (h p hp).2 (hs p hp)

end Amshan.KaifaRT
