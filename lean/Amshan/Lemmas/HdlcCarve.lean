import Amshan.Lemmas.HdlcRun
/-
  C01 (framing): the data of the frames returned by `run` are the decoded images of segments carved
  out of the input between flag octets (`HdlcSpec.Carve`).

  An invariant `FInv` ties the frame under construction to the raw octets collected since the opening
  flag (`f.data = decode stuffing c.raw`, pending escape = `pendEsc c.raw`).
-/
namespace Amshan.Hdlc
open Amshan.Gen Amshan.HdlcSpec

theorem carve_prepend (a : List Nat) {u : List Nat} {segs : List (List Nat)} (h : Carve u segs) :
    Carve (a ++ u) segs := by
  cases h with
  | nil => exact Carve.nil _
  | cons junk seg rest segs h =>
    simpa only [List.append_assoc] using Carve.cons (a ++ junk) seg rest segs h

/-- `CarveOpen raw u segs`: an opening flag and the octets `raw` have been read, `u` remains.
    Either the first segment is `raw` extended up to a flag of `u`, or the open frame is abandoned and
    all segments lie in `u`. -/
def CarveOpen (raw u : List Nat) (segs : List (List Nat)) : Prop :=
  (∃ pre rest segs', u = pre ++ flag :: rest ∧ segs = (raw ++ pre) :: segs' ∧ Carve (flag :: rest) segs')
  ∨ Carve u segs

/-- with nothing collected yet, the opening flag can be put back in front -/
theorem CarveOpen.flag_nil {u : List Nat} {segs : List (List Nat)} (h : CarveOpen [] u segs) :
    Carve (flag :: u) segs := by
  rcases h with ⟨pre, rest, segs', hu, hs, hc⟩ | h
  · subst hu hs
    have := Carve.cons [] pre rest segs' hc
    simpa only [List.nil_append, List.cons_append] using this
  · exact carve_prepend [flag] h

theorem CarveOpen.snoc {raw u : List Nat} {x : Nat} {segs : List (List Nat)}
    (h : CarveOpen (raw ++ [x]) u segs) : CarveOpen raw (x :: u) segs := by
  rcases h with ⟨pre, rest, segs', hu, hs, hc⟩ | h
  · refine Or.inl ⟨x :: pre, rest, segs', ?_, ?_, hc⟩
    · rw [hu]; rfl
    · rw [hs]; simp only [List.append_assoc, List.cons_append, List.nil_append]
  · exact Or.inr (carve_prepend [x] h)

theorem CarveOpen.abandon {raw u : List Nat} (x : Nat) {segs : List (List Nat)} (h : Carve u segs) :
    CarveOpen raw (x :: u) segs := Or.inr (carve_prepend [x] h)

theorem CarveOpen.close {raw u : List Nat} {segs : List (List Nat)} (h : CarveOpen [] u segs) :
    CarveOpen raw (flag :: u) (raw :: segs) :=
  Or.inl ⟨[], u, segs, rfl, by simp only [List.append_nil], h.flag_nil⟩

/-- the raw octets end with an unpaired escape octet -/
def pendEsc : List Nat → Bool
  | [] => false
  | [b] => decide (b = esc)
  | b :: c :: rest => if b = esc then pendEsc rest else pendEsc (c :: rest)

/-- `unesc` is un-stuffing from left to right -/
theorem unstuff_snoc (raw : List Nat) (x : Nat) :
    unstuff (raw ++ [x]) = unstuff raw ++ (unesc true (pendEsc raw) x).1 ∧
    pendEsc (raw ++ [x]) = (unesc true (pendEsc raw) x).2 := by
  induction raw using unstuff.induct with
  | case1 =>
    by_cases hx : x = esc <;> simp [unstuff, pendEsc, unesc, escOctet_eq_esc, hx]
  | case2 =>
    simp [unstuff, pendEsc, unesc, escXor_eq]
  | case3 b hb =>
    by_cases hx : x = esc <;> simp [unstuff, pendEsc, unesc, escOctet_eq_esc, hb, hx]
  | case4 c rest ih =>
    obtain ⟨ih1, ih2⟩ := ih
    simp only [List.cons_append, unstuff, pendEsc, if_true, ih1, ih2, and_true]
  | case5 b c rest hb ih =>
    obtain ⟨ih1, ih2⟩ := ih
    simp only [List.cons_append] at ih1 ih2
    simp only [List.cons_append, unstuff, pendEsc, hb, if_false, ih1, ih2, and_true]

/-- the frame under construction is the decoded image of the raw octets since the opening flag -/
structure FInv (cfg : Cfg) (c : Core) (f : Frame) : Prop where
  fr : c.frame = some f
  data : f.data = decode cfg.stuffing c.raw
  pend : cfg.stuffing = true → c.unescapeNext = pendEsc c.raw

theorem FInv.start (cfg : Cfg) (c : Core) : FInv cfg (startFrame c) Frame.empty := by
  refine ⟨rfl, ?_, fun _ => rfl⟩
  cases h : cfg.stuffing <;> rfl

theorem carve_append_data (f : Frame) (b : Nat) : (f.append b).data = f.data ++ [b] := rfl

theorem FInv.append {cfg : Cfg} {c : Core} {f : Frame} (h : FInv cfg c f) (x : Nat) :
    (appendToFrame cfg c f x).raw = c.raw ++ [x] ∧
    ∃ f', FInv cfg (appendToFrame cfg c f x) f' := by
  obtain ⟨hfr, hd, hp⟩ := h
  rw [appendToFrame_eq]
  refine ⟨rfl, _, rfl, ?_, fun hst => ?_⟩
  · show (List.foldl Frame.append f _).data = decode cfg.stuffing (c.raw ++ [x])
    rw [foldl_append_data, hd]
    cases hst : cfg.stuffing with
    | false => rfl
    | true => rw [hp hst]; exact (unstuff_snoc c.raw x).1.symm
  · show (unesc cfg.stuffing c.unescapeNext x).2 = pendEsc (c.raw ++ [x])
    rw [hst, hp hst]; exact (unstuff_snoc c.raw x).2.symm

theorem run_carve (cfg : Cfg) (u : List Nat) : ∀ c : Core,
    (c.frame = none →
      ∃ segs, Carve u segs ∧ (run cfg c u).2.map (·.data) = segs.map (decode cfg.stuffing)) ∧
    (∀ f, FInv cfg c f →
      ∃ segs, CarveOpen c.raw u segs ∧
        (run cfg c u).2.map (·.data) = segs.map (decode cfg.stuffing)) := by
  induction u with
  | nil =>
    intro c
    exact ⟨fun _ => ⟨[], Carve.nil _, rfl⟩, fun _ _ => ⟨[], Or.inr (Carve.nil _), rfl⟩⟩
  | cons x u ih =>
    intro c
    constructor
    · intro hc
      by_cases hx : x = flag
      · subst hx
        rw [run_cons_frames, show stepOctet cfg c flag = _ from stepOctet_hunt_flag cfg hc]
        obtain ⟨segs, hco, hd⟩ := (ih (startFrame c)).2 _ (FInv.start cfg c)
        exact ⟨segs, hco.flag_nil, by simpa only [List.nil_append] using hd⟩
      · rw [run_cons_frames, stepOctet_hunt_other cfg hc hx]
        obtain ⟨segs, hca, hd⟩ := (ih c).1 hc
        exact ⟨segs, carve_prepend [x] hca, by simpa only [List.nil_append] using hd⟩
    · intro f hf
      rw [run_cons_frames, stepOctet_eq, hf.fr]
      dsimp only
      cases he : effect cfg c.raw f x with
      | restart =>
        -- a flag directly after the opening flag: it becomes the opening flag
        obtain ⟨rfl, h0⟩ := effect_restart he
        have hf' : FInv cfg { unescapeNext := false, raw := [], frame := some f } f :=
          ⟨rfl, by rw [List.eq_nil_of_length_eq_zero h0]; cases cfg.stuffing <;> rfl, fun _ => rfl⟩
        obtain ⟨segs, hco, hd⟩ := (ih _).2 f hf'
        exact ⟨segs, Or.inr hco.flag_nil, by simpa only [List.nil_append] using hd⟩
      | drop =>
        obtain ⟨segs, hca, hd⟩ := (ih (gotoHunt c)).1 rfl
        exact ⟨segs, CarveOpen.abandon x hca, by simpa only [List.nil_append] using hd⟩
      | deliver =>
        -- a closing flag, which is also the next opening flag
        obtain ⟨rfl, -⟩ := effect_deliver he
        obtain ⟨segs, hco, hd⟩ := (ih (startFrame c)).2 _ (FInv.start cfg c)
        refine ⟨c.raw :: segs, hco.close, ?_⟩
        simp only [List.cons_append, List.nil_append, List.map_cons, hd, hf.data]
      | absorb =>
        obtain ⟨hraw, f', hf'⟩ := hf.append x
        rcases maxLenCheck_cases (appendToFrame cfg c f x) with ⟨e, -⟩ | ⟨e, -⟩ <;> rw [e]
        · obtain ⟨segs, hco, hd⟩ := (ih _).2 f' hf'
          rw [hraw] at hco
          exact ⟨segs, hco.snoc, by simpa only [List.nil_append] using hd⟩
        · obtain ⟨segs, hca, hd⟩ := (ih (gotoHunt _)).1 rfl
          exact ⟨segs, CarveOpen.abandon x hca, by simpa only [List.nil_append] using hd⟩

/-- C01 framing, from any reader in hunt mode -/
theorem run_carve_hunt (cfg : Cfg) (c : Core) (hc : c.frame = none) (u : List Nat) :
    ∃ segs, Carve u segs ∧ (run cfg c u).2.map (·.data) = segs.map (decode cfg.stuffing) :=
  (run_carve cfg u c).1 hc

end Amshan.Hdlc
