import Amshan.Model.PyStr
/-
  Facts about the CPython built-ins of Model/PyStr.lean as list functions: `find`, `strip` /
  `stripC` (one function `stripWith` of the white-space set), `decodeAscii`, `intBase16`'s errors,
  `splitLines`, `str` and back on ASCII; and the few facts about plain lists that core lacks.
-/
namespace Amshan.P1L
open Amshan.Py

theorem dropWhile_all (p : Nat → Bool) (t : List Nat) (h : t.all p = true) : t.dropWhile p = [] := by
  simpa using List.dropWhile_append_of_pos (l₂ := []) (List.all_eq_true.mp h)

theorem dropWhile_append_all (p : Nat → Bool) (t u : List Nat) (h : t.all p = true) :
    (t ++ u).dropWhile p = u.dropWhile p :=
  List.dropWhile_append_of_pos (List.all_eq_true.mp h)

theorem dropWhile_head_not (p : Nat → Bool) (l : List Nat) (x : Nat) (t : List Nat)
    (h : l.dropWhile p = x :: t) : p x = false := by
  have := List.head_dropWhile_not p (l := l) (by rw [h]; exact List.cons_ne_nil _ _)
  simpa only [h, List.head_cons] using this

theorem exists_snoc (c : List Nat) (h : c ≠ []) : ∃ u y, c = u ++ [y] := by
  rcases List.eq_nil_or_concat c with h' | ⟨u, y, h'⟩
  · exact absurd h' h
  · exact ⟨u, y, by rw [h', List.concat_eq_append]⟩

theorem head?_ne_of_forall {s : List Nat} {t : Nat} (h : ∀ c ∈ s, c ≠ t) : s.head? ≠ some t := by
  cases s with
  | nil => nofun
  | cons a r => intro e; exact h a List.mem_cons_self (by cases e; rfl)

theorem find?_congr {α : Type} (p q : α → Bool) (l : List α) (h : ∀ x ∈ l, p x = q x) :
    l.find? p = l.find? q := by
  induction l with
  | nil => rfl
  | cons a l ih =>
    rw [List.find?_cons, List.find?_cons, h a List.mem_cons_self,
      ih (fun x hx => h x (List.mem_cons_of_mem _ hx))]

theorem lookup_none {β : Type} (k : String) (l : List (String × β)) (h : k ∉ l.map (·.1)) :
    l.lookup k = none :=
  List.lookup_eq_none_iff.mpr fun _ hp => bne_iff_ne.mpr fun e => h (e ▸ List.mem_map_of_mem hp)

theorem isDigit_iff (c : Nat) : isDigit c = true ↔ 48 ≤ c ∧ c ≤ 57 := by
  simp [isDigit]

theorem find_nil (c : Nat) : find [] c = none := by
  simp [find]

theorem find_cons_self (c : Nat) (xs : List Nat) : find (c :: xs) c = some 0 := by
  simp [find]

theorem find_cons_ne (x c : Nat) (xs : List Nat) (h : x ≠ c) :
    find (x :: xs) c = (find xs c).map (· + 1) := by
  unfold find
  have : (x != c) = true := by simp [h]
  simp only [List.takeWhile_cons, this, if_true, List.length_cons]
  by_cases h2 : (List.takeWhile (fun x => x != c) xs).length < xs.length
  · simp [h2]
  · simp [h2]

theorem find_append_of_not_mem (a z : List Nat) (c : Nat) (h : c ∉ a) :
    find (a ++ c :: z) c = some a.length := by
  induction a with
  | nil => exact find_cons_self c z
  | cons x a ih =>
    have hx : x ≠ c := fun e => h (e ▸ List.mem_cons_self)
    rw [List.cons_append, find_cons_ne _ _ _ hx, ih (fun m => h (List.mem_cons_of_mem _ m))]
    rfl

theorem find_some_split (xs : List Nat) (c i : Nat) (h : find xs c = some i) :
    ∃ a z, xs = a ++ c :: z ∧ c ∉ a ∧ a.length = i := by
  induction xs generalizing i with
  | nil => simp [find_nil] at h
  | cons x xs ih =>
    by_cases hx : x = c
    · subst hx
      rw [find_cons_self] at h
      exact ⟨[], xs, rfl, by simp, by simpa using h⟩
    · rw [find_cons_ne _ _ _ hx] at h
      cases hf : find xs c with
      | none => rw [hf] at h; simp at h
      | some j =>
        rw [hf] at h
        simp only [Option.map_some, Option.some.injEq] at h
        obtain ⟨a, z, hxs, hna, hlen⟩ := ih j hf
        refine ⟨x :: a, z, by rw [hxs]; rfl, ?_, by simp [hlen, h]⟩
        intro m
        rcases List.mem_cons.mp m with e | m
        · exact hx e.symm
        · exact hna m

theorem find_eq_none_iff (xs : List Nat) (c : Nat) : find xs c = none ↔ c ∉ xs := by
  induction xs with
  | nil => simp [find_nil]
  | cons x xs ih =>
    by_cases hx : x = c
    · simp [hx, find_cons_self]
    · have hc : ¬ c = x := fun e => hx e.symm
      simp [find_cons_ne _ _ _ hx, ih, hc]

theorem find_none_of_not_mem (xs : List Nat) (c : Nat) (h : c ∉ xs) : find xs c = none :=
  (find_eq_none_iff xs c).2 h

theorem find_some_of_mem (xs : List Nat) (c : Nat) (h : c ∈ xs) : ∃ i, find xs c = some i := by
  cases hf : find xs c with
  | none => exact absurd h ((find_eq_none_iff xs c).1 hf)
  | some i => exact ⟨i, rfl⟩

theorem find_some_take_drop (xs : List Nat) (c i : Nat) (h : find xs c = some i) :
    xs = xs.take i ++ c :: xs.drop (i + 1) ∧ c ∉ xs.take i ∧ xs[i]? = some c ∧ i < xs.length := by
  obtain ⟨a, z, rfl, hna, rfl⟩ := find_some_split xs c i h
  refine ⟨by simp, by simpa using hna, by simp, by simp⟩

theorem decodeAscii_of_isAscii {l : List Nat} (h : isAscii l = true) : decodeAscii l = .ok l := by
  simp only [isAscii] at h
  simp only [decodeAscii, h, if_true]

theorem decodeAscii_error {bs : List Nat} {e : PyExc} (h : decodeAscii bs = .error e) :
    e = .unicodeError := by
  simp only [decodeAscii] at h
  split at h
  · cases h
  · cases h; rfl

theorem intBase16_error {s : List Nat} {e : PyExc} (h : intBase16 s = .error e) :
    e = .valueError := by
  simp only [intBase16] at h
  split at h
  · cases h
  · cases h; rfl

theorem isStrSpace_of_isBytesSpace (c : Nat) (h : isBytesSpace c = true) : isStrSpace c = true := by
  unfold isStrSpace
  unfold isBytesSpace at h
  rw [h]; rfl

theorem not_isBytesSpace_of_not_isStrSpace (c : Nat) (h : isStrSpace c = false) : isBytesSpace c = false := by
  cases hb : isBytesSpace c
  · rfl
  · rw [isStrSpace_of_isBytesSpace c hb] at h; cases h

theorem rstripWith_concat (p : Nat → Bool) (u t : List Nat) (x : Nat) (hx : p x = false)
    (ht : t.all p = true) : rstripWith p (u ++ [x] ++ t) = u ++ [x] := by
  unfold rstripWith
  have hr : (u ++ [x] ++ t).reverse = t.reverse ++ (x :: u.reverse) := by simp
  rw [hr, dropWhile_append_all p _ _ (by simpa using ht)]
  simp [hx]

theorem rstripWith_all (p : Nat → Bool) (t : List Nat) (ht : t.all p = true) :
    rstripWith p t = [] := by
  unfold rstripWith
  rw [dropWhile_all p _ (by simpa using ht)]
  rfl

/-- `str.strip()` (`strip`) and the C white-space skip of `int()` / `float()` (`stripC`) are the same
    function of the white-space set -/
def stripWith (p : Nat → Bool) (s : List Nat) : List Nat := rstripWith p (s.dropWhile p)

theorem stripC_eq_stripWith (s : List Nat) : stripC s = stripWith isBytesSpace s := rfl

/-- no white space (of the set `p`) at either end (or empty) -/
def TrimmedW (p : Nat → Bool) (c : List Nat) : Prop :=
  (∀ x t, c = x :: t → p x = false) ∧ (∀ x u, c = u ++ [x] → p x = false)

theorem trimmedW_nil (p : Nat → Bool) : TrimmedW p [] := by
  constructor
  · intro x t h; cases h
  · intro x u h
    have := congrArg List.length h
    simp at this

theorem stripWith_decomp (p : Nat → Bool) (s : List Nat) : ∃ w1 w2, s = w1 ++ stripWith p s ++ w2 ∧
    w1.all p = true ∧ w2.all p = true ∧ TrimmedW p (stripWith p s) := by
  have hrest : s.dropWhile p = stripWith p s ++ ((s.dropWhile p).reverse.takeWhile p).reverse := by
    have := List.takeWhile_append_dropWhile (p := p) (l := (s.dropWhile p).reverse)
    have h2 := congrArg List.reverse this
    rw [List.reverse_append, List.reverse_reverse] at h2
    unfold stripWith rstripWith
    exact h2.symm
  refine ⟨s.takeWhile p, ((s.dropWhile p).reverse.takeWhile p).reverse, ?_,
    List.all_takeWhile, ?_, ?_, ?_⟩
  · rw [List.append_assoc, ← hrest, List.takeWhile_append_dropWhile]
  · rw [List.all_reverse]; exact List.all_takeWhile
  · intro x t hc
    rw [hc] at hrest
    exact dropWhile_head_not p s x _ hrest
  · intro x u hc
    have : (s.dropWhile p).reverse.dropWhile p = x :: u.reverse := by
      have h3 : stripWith p s = ((s.dropWhile p).reverse.dropWhile p).reverse := rfl
      rw [h3] at hc
      have := congrArg List.reverse hc
      simpa using this
    exact dropWhile_head_not p _ x _ this

theorem stripWith_of_decomp (p : Nat → Bool) (w1 c w2 : List Nat) (h1 : w1.all p = true) (h2 : w2.all p = true)
    (hc : TrimmedW p c) : stripWith p (w1 ++ c ++ w2) = c := by
  unfold stripWith
  rw [List.append_assoc, dropWhile_append_all _ _ _ h1]
  cases c with
  | nil =>
    rw [List.nil_append, dropWhile_all _ _ h2]
    rfl
  | cons x t =>
    have hx := hc.1 x t rfl
    have hd : (x :: t ++ w2).dropWhile p = x :: t ++ w2 := by
      simp [hx]
    rw [hd]
    obtain ⟨u, y, huy⟩ := exists_snoc (x :: t) (by simp)
    have hy := hc.2 y u huy
    rw [huy]
    exact rstripWith_concat p u w2 y hy h2

theorem stripWith_of_trimmed (p : Nat → Bool) (c : List Nat) (hc : TrimmedW p c) : stripWith p c = c := by
  simpa using stripWith_of_decomp p [] c [] rfl rfl hc

theorem trimmedW_of_forall (p : Nat → Bool) (c : List Nat) (h : ∀ x ∈ c, p x = false) : TrimmedW p c :=
  ⟨fun x _ e => h x (e ▸ List.mem_cons_self), fun x _ e => h x (e ▸ List.mem_append_right _ List.mem_cons_self)⟩

theorem dropWhile_none {p : Nat → Bool} {s : List Nat} (h : ∀ c ∈ s, p c = false) : s.dropWhile p = s := by
  cases s with
  | nil => rfl
  | cons c cs => rw [List.dropWhile_cons_of_neg (by simp [h c List.mem_cons_self])]

theorem rstripWith_none {p : Nat → Bool} {s : List Nat} (h : ∀ c ∈ s, p c = false) : rstripWith p s = s := by
  unfold rstripWith
  rw [dropWhile_none fun c hc => h c (List.mem_reverse.mp hc), List.reverse_reverse]

theorem stripWith_none {p : Nat → Bool} {s : List Nat} (h : ∀ c ∈ s, p c = false) : stripWith p s = s :=
  stripWith_of_trimmed p s (trimmedW_of_forall p s h)

theorem isStrSpace_of_gt {c : Nat} (h : 32 < c) : isStrSpace c = false := by
  simp only [isStrSpace, Bool.or_eq_false_iff, Bool.and_eq_false_iff, beq_eq_false_iff_ne, ne_eq,
    decide_eq_false_iff_not]
  omega

theorem stripWith_idem (p : Nat → Bool) (s : List Nat) : stripWith p (stripWith p s) = stripWith p s := by
  obtain ⟨_, _, _, _, _, ht⟩ := stripWith_decomp p s
  exact stripWith_of_trimmed p _ ht

theorem stripWith_eq_nil_iff (p : Nat → Bool) (s : List Nat) : stripWith p s = [] ↔ s.all p = true := by
  constructor
  · intro h
    obtain ⟨w1, w2, hs, h1, h2, _⟩ := stripWith_decomp p s
    rw [h, List.append_nil] at hs
    rw [hs, List.all_append, h1, h2]
    rfl
  · intro h
    have := stripWith_of_decomp p s [] [] h rfl (trimmedW_nil p)
    simpa using this

def Trimmed (c : List Nat) : Prop := TrimmedW isStrSpace c

theorem trimmed_nil : Trimmed [] := trimmedW_nil _

theorem strip_decomp (s : List Nat) : ∃ w1 w2, s = w1 ++ strip s ++ w2 ∧
    w1.all isStrSpace = true ∧ w2.all isStrSpace = true ∧ Trimmed (strip s) :=
  stripWith_decomp isStrSpace s

theorem strip_of_decomp (w1 c w2 : List Nat) (h1 : w1.all isStrSpace = true) (h2 : w2.all isStrSpace = true)
    (hc : Trimmed c) : strip (w1 ++ c ++ w2) = c :=
  stripWith_of_decomp isStrSpace w1 c w2 h1 h2 hc

theorem strip_idem (s : List Nat) : strip (strip s) = strip s := stripWith_idem isStrSpace s

theorem strip_eq_nil_iff (s : List Nat) : strip s = [] ↔ s.all isStrSpace = true :=
  stripWith_eq_nil_iff isStrSpace s

theorem strip_core (y x : Nat) (u t : List Nat) (hy : isStrSpace y = false)
    (hx : isStrSpace x = false) (ht : t.all isStrSpace = true) :
    strip (y :: u ++ [x] ++ t) = y :: u ++ [x] := by
  unfold strip
  have : (y :: u ++ [x] ++ t).dropWhile isStrSpace = y :: u ++ [x] ++ t := by
    simp [hy]
  rw [this]
  exact rstripWith_concat isStrSpace (y :: u) t x hx ht

theorem strip_single (y : Nat) (t : List Nat) (hy : isStrSpace y = false)
    (ht : t.all isStrSpace = true) : strip (y :: t) = [y] := by
  unfold strip
  have : (y :: t).dropWhile isStrSpace = y :: t := by
    simp [hy]
  rw [this]
  exact rstripWith_concat isStrSpace [] t y hy ht

theorem trimmedW_bytes_of_trimmed (c : List Nat) (h : Trimmed c) : TrimmedW isBytesSpace c :=
  ⟨fun x t hx => not_isBytesSpace_of_not_isStrSpace x (h.1 x t hx),
   fun x u hx => not_isBytesSpace_of_not_isStrSpace x (h.2 x u hx)⟩

theorem stripC_strip (s : List Nat) : stripC (strip s) = strip s := by
  obtain ⟨_, _, _, _, _, ht⟩ := strip_decomp s
  exact stripWith_of_trimmed isBytesSpace _ (trimmedW_bytes_of_trimmed _ ht)

theorem splitLinesGo_sublist : ∀ (s cur : List Nat) (pc : Bool),
    (splitLinesGo s cur pc).flatten.Sublist (cur.reverse ++ s) := by
  intro s
  induction s with
  | nil =>
    intro cur pc
    unfold splitLinesGo
    split <;> simp
  | cons c cs ih =>
    intro cur pc
    have hdrop : ∀ l : List Nat, l.Sublist cs → (cur.reverse ++ l).Sublist (cur.reverse ++ c :: cs) :=
      fun l hl => (hl.trans (List.sublist_cons_self c cs)).append_left _
    unfold splitLinesGo
    split
    · exact (ih cur false).trans ((List.sublist_cons_self c cs).append_left _)
    · split
      · exact hdrop _ (ih [] true)
      · split
        · exact hdrop _ (ih [] false)
        · simpa using ih (c :: cur) false

theorem splitLines_sublist (s : List Nat) : (splitLines s).flatten.Sublist s :=
  splitLinesGo_sublist s [] false

theorem splitLines_mem (s line : List Nat) (hl : line ∈ splitLines s) (c : Nat) (hc : c ∈ line) : c ∈ s :=
  (splitLines_sublist s).subset (List.mem_flatten.mpr ⟨line, hl, hc⟩)

theorem splitLines_length (s : List Nat) : ((splitLines s).map List.length).sum ≤ s.length := by
  rw [← List.length_flatten]
  exact (splitLines_sublist s).length_le

theorem char_toNat_ofNat (n : Nat) (h : n < 128) : (Char.ofNat n).toNat = n := by
  have hv : n.isValidChar := Or.inl (by omega)
  simp [Char.ofNat, hv, Char.toNat, Char.ofNatAux]

theorem ofString_toString (s : List Nat) (h : ∀ c ∈ s, c < 128) : Py.ofString (Py.toString s) = s := by
  unfold Py.ofString Py.toString
  rw [String.toList_ofList, List.map_map]
  exact (List.map_congr_left fun a ha => char_toNat_ofNat a (h a ha)).trans (List.map_id' s)

end Amshan.P1L
