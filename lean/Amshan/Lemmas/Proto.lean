import Amshan.Spec.ProtoSpec
/-
  The stream-level specification (`selection`, `forwarded`) gets recursion equations over the chunk list
  (`selection_cons`, `forwarded_cons`) in terms of `firstNow`: the first candidate that reports a valid
  message in the current chunk.  The candidate loop `trySelect` computes that same `firstNow`, and
  `runAll` then agrees with the specification by induction on the chunks.
-/
namespace Amshan.Proto
open Amshan.ProtoSpec

theorem feedAll_cons (r : Rd) (ch : List Nat) (chs : List (List Nat)) :
    r.feedAll (ch :: chs) = (r.feed ch).2 :: Rd.feedAll (r.feed ch).1 chs := rfl

def advance (cands : List Rd) (ch : List Nat) : List Rd := cands.map (fun r => (r.feed ch).1)

@[simp] theorem advance_length (cands : List Rd) (ch : List Nat) :
    (advance cands ch).length = cands.length := by simp [advance]

@[simp] theorem advance_nil (ch : List Nat) : advance [] ch = [] := rfl

@[simp] theorem advance_cons (r : Rd) (rs : List Rd) (ch : List Nat) :
    advance (r :: rs) ch = (r.feed ch).1 :: advance rs ch := rfl

theorem advance_getElem? (cands : List Rd) (ch : List Nat) (i : Nat) :
    (advance cands ch)[i]? = (cands[i]?).map (fun r => (r.feed ch).1) := by
  simp [advance]

theorem msgsAt_succ (cands : List Rd) (ch : List Nat) (chs : List (List Nat)) (i k : Nat) :
    msgsAt cands (ch :: chs) i (k + 1) = msgsAt (advance cands ch) chs i k := by
  unfold msgsAt
  rw [advance_getElem?]
  cases cands[i]? <;> simp [feedAll_cons]

theorem msgsAt_cons_zero (r : Rd) (rs : List Rd) (chunks : List (List Nat)) (k : Nat) :
    msgsAt (r :: rs) chunks 0 k = (r.feedAll chunks).getD k [] := by
  simp [msgsAt]

theorem msgsAt_cons_succ (r : Rd) (rs : List Rd) (chunks : List (List Nat)) (i k : Nat) :
    msgsAt (r :: rs) chunks (i + 1) k = msgsAt rs chunks i k := by
  simp [msgsAt]

abbrev anyValid (ms : List Msg) : Bool := ms.any (·.valid)

theorem firstValidCand_cons (r : Rd) (rs : List Rd) (chunks : List (List Nat)) (k : Nat) :
    firstValidCand (r :: rs) chunks k =
      if anyValid ((r.feedAll chunks).getD k []) then some 0
      else (firstValidCand rs chunks k).map (· + 1) := by
  unfold firstValidCand
  rw [List.length_cons, List.range_succ_eq_map, List.find?_cons, msgsAt_cons_zero, List.find?_map]
  cases h : anyValid ((r.feedAll chunks).getD k []) <;> simp only [h] <;> rfl

def firstNow (ch : List Nat) : List Rd → Option Nat
  | [] => none
  | r :: rs => if anyValid (r.feed ch).2 then some 0 else (firstNow ch rs).map (· + 1)

theorem firstValidCand_zero (cands : List Rd) (ch : List Nat) (chs : List (List Nat)) :
    firstValidCand cands (ch :: chs) 0 = firstNow ch cands := by
  induction cands with
  | nil => rfl
  | cons r rs ih =>
    rw [firstValidCand_cons, ih, feedAll_cons]
    rfl

theorem firstValidCand_succ (cands : List Rd) (ch : List Nat) (chs : List (List Nat)) (k : Nat) :
    firstValidCand cands (ch :: chs) (k + 1) = firstValidCand (advance cands ch) chs k := by
  unfold firstValidCand
  simp only [msgsAt_succ, advance_length]

theorem selection_nil (cands : List Rd) : selection cands [] = none := rfl

theorem selection_cons (cands : List Rd) (ch : List Nat) (chs : List (List Nat)) :
    selection cands (ch :: chs) =
      match firstNow ch cands with
      | some i => some (0, i)
      | none => (selection (advance cands ch) chs).map (fun ki => (ki.1 + 1, ki.2)) := by
  unfold selection
  rw [List.length_cons, List.range_succ_eq_map, List.findSome?_cons, firstValidCand_zero]
  cases firstNow ch cands with
  | some i => rfl
  | none =>
    simp only [Option.map_none, List.findSome?_map, List.map_findSome?]
    congr 1
    funext k
    simp only [Function.comp, firstValidCand_succ, Option.map_map]
    rfl

theorem forwarded_nil (cands : List Rd) : forwarded cands [] = [] := rfl

theorem forwarded_cons (cands : List Rd) (ch : List Nat) (chs : List (List Nat)) :
    forwarded cands (ch :: chs) =
      match firstNow ch cands with
      | some i =>
        match cands[i]? with
        | some r => (r.feedAll (ch :: chs)).flatten
        | none => []
      | none => forwarded (advance cands ch) chs := by
  unfold forwarded
  rw [selection_cons]
  cases firstNow ch cands with
  | some i =>
    simp only
    cases cands[i]? with
    | none => rfl
    | some r => simp only [List.drop_zero]
  | none =>
    simp only
    cases selection (advance cands ch) chs with
    | none => rfl
    | some ki =>
      obtain ⟨k, i⟩ := ki
      simp only [Option.map_some, advance_getElem?]
      cases cands[i]? with
      | none => rfl
      | some r => simp only [Option.map_some, feedAll_cons, List.drop_succ_cons]

theorem trySelect_eq (ch : List Nat) (cands : List Rd) (off : Nat) :
    match firstNow ch cands with
    | none => trySelect ch cands off = (advance cands ch, none)
    | some i => ∃ r cs, cands[i]? = some r ∧
        trySelect ch cands off = (cs, some (off + i, (r.feed ch).1, (r.feed ch).2)) := by
  induction cands generalizing off with
  | nil => rfl
  | cons r rs ih =>
    unfold firstNow trySelect
    by_cases hv : anyValid (r.feed ch).2 = true
    · simp only [hv, if_true]
      exact ⟨r, _, rfl, rfl⟩
    · have ih := ih (off + 1)
      simp only [hv, Bool.false_eq_true, if_false]
      cases h : firstNow ch rs with
      | none =>
        rw [h] at ih
        simp only [Option.map_none, ih, advance_cons]
      | some i =>
        rw [h] at ih
        obtain ⟨r', cs, h1, h2⟩ := ih
        exact ⟨r', _, h1, by rw [h2, Nat.add_assoc, Nat.add_comm 1]⟩

theorem runAll_nil (k : Kind) (s : State) : runAll k s [] = (s, []) := rfl

theorem runAll_cons (k : Kind) (s : State) (ch : List Nat) (chs : List (List Nat)) :
    runAll k s (ch :: chs) =
      ((runAll k (dataReceived k s ch).1 chs).1,
       (dataReceived k s ch).2 ++ (runAll k (dataReceived k s ch).1 chs).2) := rfl

theorem dataReceived_selected (k : Kind) (i : Nat) (r : Rd) (cs : List Rd) (ch : List Nat) :
    dataReceived k ⟨some (i, r), cs⟩ ch =
      (⟨some (i, (r.feed ch).1), cs⟩, (r.feed ch).2.flatMap (received k)) := rfl

theorem dataReceived_unselected_none (k : Kind) (cands : List Rd) (ch : List Nat)
    (h : firstNow ch cands = none) :
    dataReceived k ⟨none, cands⟩ ch = (⟨none, advance cands ch⟩, []) := by
  have := trySelect_eq ch cands 0
  rw [h] at this
  unfold dataReceived
  simp only [this]

theorem dataReceived_unselected_some (k : Kind) (cands : List Rd) (ch : List Nat) (i : Nat)
    (h : firstNow ch cands = some i) :
    ∃ r, cands[i]? = some r ∧ dataReceived k ⟨none, cands⟩ ch =
      (⟨some (i, (r.feed ch).1), []⟩, (r.feed ch).2.flatMap (received k)) := by
  have := trySelect_eq ch cands 0
  rw [h] at this
  obtain ⟨r, cs, h1, h2⟩ := this
  refine ⟨r, h1, ?_⟩
  unfold dataReceived
  simp only [h2, Nat.zero_add]

theorem runAll_selected (k : Kind) (i : Nat) (r : Rd) (cs : List Rd) (chunks : List (List Nat)) :
    (runAll k ⟨some (i, r), cs⟩ chunks).2 = (r.feedAll chunks).flatten.flatMap (received k) ∧
    (runAll k ⟨some (i, r), cs⟩ chunks).1.selected.map (·.1) = some i := by
  induction chunks generalizing r with
  | nil => exact ⟨rfl, rfl⟩
  | cons ch chs ih =>
    rw [runAll_cons, dataReceived_selected]
    obtain ⟨ih1, ih2⟩ := ih (r.feed ch).1
    refine ⟨?_, ih2⟩
    simp only [ih1, feedAll_cons, List.flatten_cons, List.flatMap_append]

theorem runAll_unselected (k : Kind) (cands : List Rd) (chunks : List (List Nat)) :
    (runAll k ⟨none, cands⟩ chunks).2 = (forwarded cands chunks).flatMap (received k) ∧
    (runAll k ⟨none, cands⟩ chunks).1.selected.map (·.1) = (selection cands chunks).map (·.2) := by
  induction chunks generalizing cands with
  | nil => exact ⟨rfl, rfl⟩
  | cons ch chs ih =>
    rw [runAll_cons, forwarded_cons, selection_cons]
    cases h : firstNow ch cands with
    | none =>
      rw [dataReceived_unselected_none k cands ch h]
      obtain ⟨ih1, ih2⟩ := ih (advance cands ch)
      refine ⟨by simpa using ih1, ?_⟩
      simp only [ih2, Option.map_map]
      rfl
    | some i =>
      obtain ⟨r, h1, h2⟩ := dataReceived_unselected_some k cands ch i h
      rw [h2]
      obtain ⟨ih1, ih2⟩ := runAll_selected k i (r.feed ch).1 [] chs
      refine ⟨?_, by simpa using ih2⟩
      simp only [ih1, h1, feedAll_cons, List.flatten_cons, List.flatMap_append]

theorem received_message (m : Msg) : received .message m = [Item.msg m] := rfl

theorem received_payload (m : Msg) :
    received .payload m = (goodPayload m).toList.map Item.payload := by
  unfold received goodPayload
  simp only
  cases m.valid with
  | false => rfl
  | true =>
    simp only [if_true]
    cases m.payload with
    | none => rfl
    | some p => cases p <;> rfl

theorem flatMap_received_message (ms : List Msg) :
    ms.flatMap (received .message) = ms.map Item.msg :=
  List.map_eq_flatMap.symm

theorem flatMap_received_payload (ms : List Msg) :
    ms.flatMap (received .payload) = (ms.filterMap goodPayload).map Item.payload := by
  induction ms with
  | nil => rfl
  | cons m ms ih =>
    rw [List.flatMap_cons, ih, received_payload, List.filterMap_cons]
    cases goodPayload m <;> rfl

theorem not_anyValid_of_all_valid (ms : List Msg) (h : ∀ m ∈ ms, m.valid = true)
    (hn : anyValid ms = false) : ms = [] := by
  cases ms with
  | nil => rfl
  | cons m ms =>
    have := h m (List.mem_cons_self ..)
    simp [anyValid, this] at hn

theorem forwarded_single (r : Rd) (chunks : List (List Nat))
    (h : ∀ m ∈ (r.feedAll chunks).flatten, m.valid = true) :
    forwarded [r] chunks = (r.feedAll chunks).flatten := by
  induction chunks generalizing r with
  | nil => rfl
  | cons ch chs ih =>
    rw [forwarded_cons, firstNow, firstNow, Option.map_none]
    rw [feedAll_cons, List.flatten_cons] at h
    cases hv : anyValid (r.feed ch).2 with
    | true => rfl
    | false =>
      have he := not_anyValid_of_all_valid _ (fun m hm => h m (List.mem_append_left _ hm)) hv
      have := ih (r.feed ch).1 (fun m hm => h m (List.mem_append_right _ hm))
      simp only [Bool.false_eq_true, if_false, advance_cons, advance_nil, this, feedAll_cons,
        List.flatten_cons, he, List.nil_append]

end Amshan.Proto
