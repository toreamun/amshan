import Amshan.Lemmas.HdlcCleanCore
/-
  The encoding of a well-formed frame (`FrameDesc.encode`) and the frame object the reader has built
  after reading a prefix of it.
-/
namespace Amshan.HdlcClean
open Amshan.Gen Amshan.Hdlc Amshan.HdlcSpec Amshan.Rfc1662

theorem head_length (d : FrameDesc) : d.head.length = d.headLen := by
  simp only [FrameDesc.head, FrameDesc.headLen, List.length_append, List.length_cons, List.length_nil]

theorem fcsLE_length (bs : List Nat) : (fcsLE bs).length = 2 := rfl

theorem encode_length (d : FrameDesc) : d.encode.length = d.totalLen := by
  simp only [FrameDesc.encode, FrameDesc.totalLen]
  split
  · simp only [List.length_append, head_length, fcsLE_length]
  · simp only [List.length_append, head_length, fcsLE_length]; omega

theorem format_lt (d : FrameDesc) (h : d.WF) : d.format < 65536 := by
  obtain ⟨h1, _, _, _, _, _, _, h8⟩ := h
  unfold FrameDesc.format
  split <;> omega

theorem fcs16_lt (bs : List Nat) (h : Octets bs) : fcs16 bs < 65536 := by
  unfold fcs16
  rw [← Amshan.C03.update_eq bs h]
  exact Nat.xor_lt_two_pow (n := 16) (Amshan.FcsLemmas.feed_lt _ _ (by decide) h) (by decide)

theorem Octets_fcsLE (bs : List Nat) (h : Octets bs) : Octets (fcsLE bs) := by
  have := fcs16_lt bs h
  simp only [fcsLE, Octets_cons]
  exact ⟨by omega, by omega, Octets_nil⟩

theorem Octets_head (d : FrameDesc) (h : d.WF) : Octets d.head := by
  have hf := format_lt d h
  simp only [FrameDesc.head, Octets_append, Octets_cons]
  exact ⟨⟨⟨⟨by omega, by omega, Octets_nil⟩, h.2.2.2.2.1⟩, h.2.2.2.2.2.1⟩, h.2.2.2.1, Octets_nil⟩

theorem encode_split (d : FrameDesc) : ∃ t, d.encode = d.head ++ (fcsLE d.head ++ t) := by
  simp only [FrameDesc.encode]
  split
  · exact ⟨[], by simp⟩
  · exact ⟨d.info ++ fcsLE (d.head ++ fcsLE d.head ++ d.info), by simp⟩

theorem encode_trailer (d : FrameDesc) : ∃ m, d.encode = m ++ fcsLE m ∧ (d.WF → Octets m) := by
  simp only [FrameDesc.encode]
  split
  · exact ⟨d.head, rfl, Octets_head d⟩
  · refine ⟨d.head ++ fcsLE d.head ++ d.info, rfl, ?_⟩
    intro h
    have hh := Octets_head d h
    exact Octets_append.mpr ⟨Octets_append.mpr ⟨hh, Octets_fcsLE _ hh⟩, h.2.2.2.2.2.2.1⟩

theorem Octets_encode (d : FrameDesc) (h : d.WF) : Octets d.encode := by
  obtain ⟨m, e, hm⟩ := encode_trailer d
  rw [e]
  exact Octets_append.mpr ⟨hm h, Octets_fcsLE m (hm h)⟩

theorem feed_encode (d : FrameDesc) (h : d.WF) : Fcs.feed fcsInit d.encode = fcsGood := by
  obtain ⟨m, e, hm⟩ := encode_trailer d
  have hm := hm h
  have hl := fcs16_lt m hm
  have := (Amshan.C03.residue m (fcs16 m % 256) (fcs16 m / 256) hm (by omega) (by omega)).mpr ⟨rfl, rfl⟩
  rw [e]
  simp only [Fcs.isGood, beq_iff_eq] at this
  exact this.symm

theorem prefix_split {α : Type} (p r a b : List α) (e : p ++ r = a ++ b) (hl : a.length ≤ p.length) :
    ∃ p', p = a ++ p' := by
  obtain ⟨t, ht⟩ := List.prefix_of_prefix_length_le (e ▸ List.prefix_append a b) (List.prefix_append p r) hl
  exact ⟨t, ht.symm⟩

theorem controlPos_prefix (d : FrameDesc) (h : d.WF) (p r : List Nat) (e : p ++ r = d.encode)
    (hl : d.headLen ≤ p.length) : controlPos p = some (d.headLen - 1) := by
  obtain ⟨t, ht⟩ := encode_split d
  rw [ht] at e
  obtain ⟨p', hp'⟩ := prefix_split p r _ _ e (by rw [head_length]; exact hl)
  rw [hp']
  unfold FrameDesc.head
  have := controlPos_of_shape (d.format / 256) (d.format % 256) d.dst d.src ([d.ctl] ++ p') h.2.1 h.2.2.1
  simp only [List.append_assoc] at this ⊢
  rw [this]
  simp only [FrameDesc.headLen]
  congr 1

theorem hcs_prefix (d : FrameDesc) (h : d.WF) (p r : List Nat) (e : p ++ r = d.encode)
    (hl : d.headLen + 2 ≤ p.length) : (mk p).hcs.isSome = true := by
  have hp : Octets p := (Octets_append.mp (e ▸ Octets_encode d h)).1
  refine (Frame.hcs_isSome_iff _).mpr ⟨d.headLen - 1, ?_, ?_⟩
  · rw [mk_ctlPos p hp]; exact controlPos_prefix d h p r e (by omega)
  · rw [mk_len]; unfold FrameDesc.headLen at *; omega

theorem format_bytes (d : FrameDesc) : ((d.format / 256) <<< 8) ||| (d.format % 256) = d.format := by
  rw [shl8_or _ _ (Nat.mod_lt _ (by decide))]; omega

theorem frameFormat_prefix (d : FrameDesc) (p r : List Nat) (e : p ++ r = d.encode)
    (hl : 2 ≤ p.length) : (mk p).frameFormat = some d.format := by
  obtain ⟨t, ht⟩ := encode_split d
  rw [ht] at e
  unfold FrameDesc.head at e
  simp only [List.append_assoc, List.cons_append, List.nil_append] at e
  obtain ⟨p', hp'⟩ := prefix_split p r [d.format / 256, d.format % 256] _ e (by simpa using hl)
  rw [Frame.frameFormat_of (mk p) (d.format / 256) (d.format % 256) p' (by rw [mk_data, hp']; rfl),
    format_bytes]

theorem format_length (d : FrameDesc) (h : d.WF) : d.format &&& 0x7FF = d.totalLen := by
  rw [and_mask11]
  have := h.2.2.2.2.2.2.2
  unfold FrameDesc.format
  split <;> omega

theorem format_type (d : FrameDesc) (h : d.WF) : (d.format >>> 12) &&& 0xF = d.fmt := by
  rw [and_mask4, Nat.shiftRight_eq_div_pow]
  have := h.2.2.2.2.2.2.2
  have := h.1
  unfold FrameDesc.format
  split <;> omega

theorem format_seg (d : FrameDesc) (h : d.WF) : (((d.format >>> 11) &&& 1) == 1) = d.seg := by
  rw [and_mask1, Nat.shiftRight_eq_div_pow]
  have := h.2.2.2.2.2.2.2
  unfold FrameDesc.format
  cases hs : d.seg
  · simp only [Bool.false_eq_true, if_false]
    apply beq_false_of_ne; omega
  · simp only [if_true, beq_iff_eq]; omega

theorem frameLength_prefix (d : FrameDesc) (h : d.WF) (p r : List Nat) (e : p ++ r = d.encode)
    (hl : 2 ≤ p.length) : (mk p).frameLength = some d.totalLen := by
  unfold Frame.frameLength
  rw [frameFormat_prefix d p r e hl, Option.map_some, format_length d h]

theorem isExpectedLength_prefix (d : FrameDesc) (h : d.WF) (p r : List Nat) (e : p ++ r = d.encode)
    (hl : 2 ≤ p.length) : (mk p).isExpectedLength = decide (d.totalLen = p.length) := by
  unfold Frame.isExpectedLength
  rw [frameLength_prefix d h p r e hl, mk_len]
  by_cases hh : d.totalLen = p.length <;> simp [hh]

theorem headLen_ge (d : FrameDesc) : 3 ≤ d.headLen := by unfold FrameDesc.headLen; omega

theorem totalLen_ge (d : FrameDesc) : d.headLen + 2 ≤ d.totalLen := by unfold FrameDesc.totalLen; omega

theorem expectedFrame_inv (d : FrameDesc) (h : d.WF) : FrameInv (expectedFrame d) :=
  ⟨(feed_encode d h).symm,
    (controlPos_prefix d h d.encode [] (List.append_nil _)
      (by rw [encode_length]; exact Nat.le_trans (Nat.le_add_right _ 2) (totalLen_ge d))).symm,
    Octets_encode d h⟩

theorem expectedFrame_eq (d : FrameDesc) (h : d.WF) : expectedFrame d = mk d.encode :=
  eq_mk_of_inv _ (expectedFrame_inv d h)

theorem encode_length_le (d : FrameDesc) (h : d.WF) : d.encode.length ≤ 2047 := by
  rw [encode_length]; exact h.2.2.2.2.2.2.2

theorem encode_ne_nil (d : FrameDesc) : d.encode ≠ [] :=
  List.ne_nil_of_length_pos (by have := totalLen_ge d; rw [encode_length]; omega)

theorem hcs_encode (d : FrameDesc) (h : d.WF) : (mk d.encode).hcs.isSome = true :=
  hcs_prefix d h d.encode [] (List.append_nil _) (by rw [encode_length]; exact totalLen_ge d)

theorem isExpectedLength_encode (d : FrameDesc) (h : d.WF) : (mk d.encode).isExpectedLength = true := by
  have := totalLen_ge d
  rw [isExpectedLength_prefix d h d.encode [] (List.append_nil _) (by rw [encode_length]; omega),
    encode_length, decide_eq_true rfl]

end Amshan.HdlcClean
