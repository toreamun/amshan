import Amshan.Model.BackOff
/-
  The strategy object in closed form: after `n` consecutive `failure()` calls `_delay` is `pow2pred n`,
  whatever came before the last `reset()`.  The breaker's flag compares the last two sightings of a loss,
  and `getBackOffTime` is the larger of the two delays.
-/
namespace Amshan.BackOff

/-- number of trailing `failure` operations, stated on the reversed list -/
def leadingFailures (l : List Op) : Nat := (l.takeWhile (· == Op.failure)).length

@[simp] theorem leadingFailures_nil : leadingFailures [] = 0 := rfl
@[simp] theorem leadingFailures_failure (l : List Op) :
    leadingFailures (Op.failure :: l) = leadingFailures l + 1 := by
  simp [leadingFailures]
@[simp] theorem leadingFailures_reset (l : List Op) :
    leadingFailures (Op.reset :: l) = 0 := by
  simp [leadingFailures]

theorem run_snoc (s : Strategy) (ops : List Op) (op : Op) :
    s.run (ops ++ [op]) = (s.run ops).apply op := by
  simp [Strategy.run, List.foldl_append]

theorem apply_maxDelay (s : Strategy) (op : Op) : (s.apply op).maxDelay = s.maxDelay := by
  cases op <;> rfl

theorem run_maxDelay (s : Strategy) (ops : List Op) : (s.run ops).maxDelay = s.maxDelay := by
  induction ops generalizing s with
  | nil => rfl
  | cons op ops ih =>
    show ((s.apply op).run ops).maxDelay = _
    rw [ih, apply_maxDelay]

/-- the value of `_delay` after `n` consecutive failures -/
def pow2pred (n : Nat) : Nat := if n = 0 then 0 else 2 ^ (n - 1)

theorem pow2pred_succ (n : Nat) : pow2pred (n + 1) = 2 ^ n := by simp [pow2pred]

theorem failure_delay (b : Strategy) (n : Nat) (h : b.delay = pow2pred n) :
    b.failure.delay = pow2pred (n + 1) := by
  rw [pow2pred_succ]
  show (if b.delay * 2 = 0 then 1 else b.delay * 2) = 2 ^ n
  rw [h]
  cases n with
  | zero => rfl
  | succ m => rw [pow2pred_succ, if_neg (by have := Nat.two_pow_pos m; omega), Nat.pow_succ]

theorem run_reverse_delay (s : Strategy) (h : s.delay = 0) (l : List Op) :
    (s.run l.reverse).delay = pow2pred (leadingFailures l) := by
  induction l with
  | nil => exact h
  | cons op l ih =>
    rw [List.reverse_cons, run_snoc]
    cases op with
    | reset => rw [leadingFailures_reset]; rfl
    | failure => rw [leadingFailures_failure]; exact failure_delay _ _ ih

theorem run_delay (s : Strategy) (h : s.delay = 0) (ops : List Op) :
    (s.run ops).delay = pow2pred (leadingFailures ops.reverse) := by
  have := run_reverse_delay s h ops.reverse
  rwa [List.reverse_reverse] at this

theorem current_eq_min (s : Strategy) : s.current = min s.delay s.maxDelay := by
  unfold Strategy.current
  rw [Nat.min_def]
  split <;> split <;> omega

@[simp] theorem update_threshold (b : Breaker) (x : Nat) : (b.update x).threshold = b.threshold := by
  unfold Breaker.update; cases b.lastLoss <;> rfl
@[simp] theorem update_sleepSec (b : Breaker) (x : Nat) : (b.update x).sleepSec = b.sleepSec := by
  unfold Breaker.update; cases b.lastLoss <;> rfl
@[simp] theorem update_lastLoss (b : Breaker) (x : Nat) : (b.update x).lastLoss = some x := by
  unfold Breaker.update; cases b.lastLoss <;> rfl
theorem update_sleepFlag (b : Breaker) (x t : Nat) (h : b.lastLoss = some t) :
    (b.update x).sleepFlag = (decide (x - t < b.threshold * 1000000) || decide (x < t)) := by
  unfold Breaker.update; rw [h]

theorem update_update_sleepFlag (b : Breaker) (t1 t2 : Nat) : ((b.update t1).update t2).sleepFlag =
    (decide (t2 - t1 < b.threshold * 1000000) || decide (t2 < t1)) := by
  rw [update_sleepFlag _ _ _ (update_lastLoss b t1), update_threshold]

theorem update_sleepFlag_sec (b : Breaker) (u now : Nat) (hb : b.lastLoss = some (u * 1000000)) (hle : u ≤ now) :
    (b.update (now * 1000000)).sleepFlag = true ↔ now - u < b.threshold := by
  rw [update_sleepFlag _ _ _ hb, ← Nat.sub_mul, Bool.or_eq_true, decide_eq_true_eq, decide_eq_true_eq,
    or_iff_left (Nat.not_lt.2 (Nat.mul_le_mul_right _ hle))]
  exact Nat.mul_lt_mul_right (by decide)

theorem getBackOffTime_eq (s : Strategy) (b : Breaker) :
    getBackOffTime s b = max s.current (if b.sleepFlag then b.sleepSec else 0) := by
  unfold getBackOffTime
  cases hf : b.sleepFlag <;> simp
  omega

theorem current_le_getBackOffTime (s : Strategy) (b : Breaker) : s.current ≤ getBackOffTime s b := by
  rw [getBackOffTime_eq]; exact Nat.le_max_left _ _

theorem sleepSec_le_getBackOffTime (s : Strategy) (b : Breaker) (h : b.sleepFlag = true) :
    b.sleepSec ≤ getBackOffTime s b := by
  rw [getBackOffTime_eq, h]; exact Nat.le_max_right _ _

end Amshan.BackOff
