import Amshan.Lemmas.ConnMgrPacingInv
/-
  The breaker compares the times at which connect_loop SEES two losses; the log records when the
  connections died.  `PLoss` relates the two: the breaker's stamp is not before the last loss that has
  been seen and, with the flag clear, at least the threshold after the one before it.
-/
namespace Amshan.ConnMgr
open Amshan.BackOff

/-- what the breaker promises for an `attempt` at time `t` after the monitor state `m` -/
def lossGood (th sl : Nat) (m : Mon) (t : Nat) : Prop :=
  ∀ t1 t2, m.l1 = some t1 → m.l2 = some t2 → t2 + sl ≤ t ∨ t1 + th ≤ t

/-- the loss side: the breaker's time stamp and flag against the `lost` events of the log.
    A loss is *seen* when connect_loop has run `_update_connection_lost_circuit_breaker()` for it;
    it is *unseen* while `_connection` still holds the dead connection. -/
structure PLoss (md th sl : Nat) (s : S) : Prop where
  chk : Checked md (lossGood th sl) Mon.zero s.log
  slpF : active s → s.breaker.sleepFlag = true → ∀ u, s.t = .sleeping u → ∀ x ∈ s.log, x.1 + sl ≤ u
  seen : active s → (∀ c, s.conn = some c → c ∉ s.doneSet) →
    ∀ t2, (Mon.run md Mon.zero s.log).l2 = some t2 →
      ∃ x, s.breaker.lastLoss = some x ∧ t2 * 1000000 ≤ x ∧
        (s.breaker.sleepFlag = false → ∀ t1, (Mon.run md Mon.zero s.log).l1 = some t1 → (t1 + th) * 1000000 ≤ x)
  unseen : active s → ∀ c, s.conn = some c → c ∈ s.doneSet →
    ∀ t1, (Mon.run md Mon.zero s.log).l1 = some t1 → ∃ x, s.breaker.lastLoss = some x ∧ t1 * 1000000 ≤ x

theorem ploss_init (md th sl : Nat) : PLoss md th sl (S.init md th sl) := by
  constructor <;> simp [S.init, Mon.zero, Checked]

theorem PLoss.inactive {md th sl : Nat} {s s' : S} (hf : PLoss md th sl s) (hn : ¬ active s')
    {l : List (Nat × Ev)} (hl : s'.log = s.log ++ l) (hq : l.all (·.2.quiet) = true) :
    PLoss md th sl s' where
  chk := hl ▸ hf.chk.append_quiet hq
  slpF := fun ha => absurd ha hn
  seen := fun ha => absurd ha hn
  unseen := fun ha => absurd ha hn

/-- with the flag set, a `sleep(_get_back_off_time())` begun now ends at least `sleepSec` after everything logged so far -/
theorem PBase.sleep_covers {md th sl : Nat} {s : S} (hb : PBase md th sl s) (hfl : s.breaker.sleepFlag = true) :
    ∀ x ∈ s.log, x.1 + sl ≤ s.now + getBackOffTime s.backoff s.breaker := fun x hx =>
  Nat.add_le_add (hb.times x hx) (hb.cfgSl ▸ sleepSec_le_getBackOffTime s.backoff s.breaker hfl)

theorem PLoss.ready_waited {md th sl : Nat} {s : S} (hf : PLoss md th sl s) (hb : PBase md th sl s)
    (ha : active s) (hfl : s.breaker.sleepFlag = true) (hr : ready s) : ∀ x ∈ s.log, x.1 + sl ≤ s.now := by
  intro x hx
  rcases hr with ⟨_, h0⟩ | ⟨u, hu, hle⟩
  · have := hb.sleep_covers hfl x hx
    rwa [h0] at this
  · exact Nat.le_trans (hf.slpF ha hfl u hu x hx) hle

theorem ploss_step {md th sl : Nat} {s s' : S} {l : Label} (hi : Inv s) (hb : PBase md th sl s)
    (hf : PLoss md th sl s) (h : Step s l s') : PLoss md th sl s' := by
  cases h
  case startExit | w1Exit | w2Exit | w1CloseExit => exact hf.inactive (fun ha => ha.2 rfl) rfl rfl
  case closeIdle | closeLive => exact hf.inactive (fun ha => nomatch ha.1) rfl rfl
  case cancelled hc _ => exact hf.inactive (fun ha => ha.2 (hi.exited_of_cancelReq hc)) (List.append_nil _).symm rfl
  case giveUp hcl => exact hf.inactive (fun ha => nomatch ha.1.symm.trans hcl) (List.append_nil _).symm rfl
  case startSpawn hl hcl | retry hl _ hcl _ =>
    have ha : active s := ⟨hcl, fun h => nomatch hl.symm.trans h⟩
    exact { hf with
      slpF := fun _ _ _ h => nomatch h
      seen := fun _ => hf.seen ha
      unseen := fun _ => hf.unseen ha }
  case connected hl _ hcl _ =>
    have ha : active s := ⟨hcl, fun h => nomatch hl.symm.trans h⟩
    exact { hf with slpF := fun _ => hf.slpF ha, seen := fun _ => hf.seen ha, unseen := fun _ => hf.unseen ha }
  case lossSeen c hl hcl hcn hd =>
    -- `_update_connection_lost_circuit_breaker()`: the loss held in `_connection` becomes a seen one
    have ha : active s := ⟨hcl, fun h => nomatch hl.symm.trans h⟩
    exact { hf with
      slpF := fun _ _ _ h => nomatch h
      unseen := fun _ _ h => nomatch h
      seen := fun _ _ t2 ht2 => by
        have ⟨_, hc⟩ := Mon.zero_l2_mem ht2
        refine ⟨_, update_lastLoss .., Nat.mul_le_mul_right _ (hb.times _ hc), fun hfl t1 ht1 => ?_⟩
        obtain ⟨y, hll, hy⟩ := hf.unseen ha c hcn hd t1 ht1
        obtain ⟨u, rfl, hle⟩ := hb.lossU y hll
        have h1 : t1 ≤ u := Nat.le_of_mul_le_mul_right hy (by decide)
        have h2 : ¬ s.now - u < th := fun h =>
          Bool.eq_false_iff.1 hfl ((update_sleepFlag_sec s.breaker u s.now hll hle).2 (hb.cfgTh.symm ▸ h))
        exact Nat.mul_le_mul_right _ (by omega) }
  case sleep hc ht hp =>
    refine { hf with slpF := fun _ hfl u hu => ?_ }
    cases hu
    exact hb.sleep_covers hfl
  case attempt hc hr hcl =>
    have hcn := (hi.pending hr.running).1
    have ha := hi.active_of_ready hr hc hcl
    -- the last loss has been seen; with the flag set the sleep was served, with the flag clear the
    -- last-but-one sighting is at least the threshold before the last, which is not after now
    have key : lossGood th sl (Mon.run md Mon.zero s.log) s.now := by
      intro t1 t2 h1 h2
      obtain ⟨x, hx, _, hth⟩ := hf.seen ha (fun c h => nomatch hcn.symm.trans h) t2 h2
      obtain ⟨u, rfl, hle⟩ := hb.lossU x hx
      cases hfl : s.breaker.sleepFlag with
      | false =>
        have : t1 + th ≤ u := Nat.le_of_mul_le_mul_right (hth hfl t1 h1) (by decide)
        exact .inr (by omega)
      | true =>
        have ⟨_, hc⟩ := Mon.zero_l2_mem h2
        exact .inl (hf.ready_waited hb ha hfl hr _ hc)
    exact {
      chk := hf.chk.snoc fun _ => key
      slpF := fun _ _ _ h => nomatch h
      seen := by simp only [Mon.run_snoc]; exact hf.seen
      unseen := by simp only [Mon.run_snoc]; exact hf.unseen }
  case factoryOk ht hc =>
    have hcn := (hi.pending (.inr (.inr ht))).1
    exact {
      chk := hf.chk.snoc nofun
      slpF := fun _ _ _ h => nomatch h
      seen := by simp only [Mon.run_snoc]; exact fun ha _ => hf.seen ha (fun c h => nomatch hcn.symm.trans h)
      unseen := fun _ c h hd => absurd (hi.doneLt c hd) (Option.some.inj h ▸ Nat.lt_irrefl _) }
  case factoryFail ht hc =>
    have hcn := (hi.pending (.inr (.inr ht))).1
    exact {
      chk := hf.chk.snoc nofun
      slpF := fun _ _ _ h => nomatch h
      seen := by simp only [Mon.run_snoc]; exact fun ha _ => hf.seen ha (fun c h => nomatch hcn.symm.trans h)
      unseen := fun _ _ h => nomatch h }
  case lose c hcn hm =>
    -- the monitor's last loss becomes its last-but-one; the new one is unseen
    exact {
      chk := hf.chk.snoc nofun
      slpF := fun _ _ u hu => nomatch (hi.conn_finished hcn).symm.trans hu
      seen := fun _ h => absurd (List.mem_append_right _ (List.mem_singleton_self c)) (h c hcn)
      unseen := fun ha _ _ _ => by
        simp only [Mon.run_snoc]
        exact fun t1 h1 =>
          have ⟨x, hx, hle, _⟩ := hf.seen ha (fun c' h => Option.some.inj (hcn.symm.trans h) ▸ (hi.conn1 c hcn).2.2 hm) t1 h1
          ⟨x, hx, hle⟩ }
  case tick d => exact { hf with }

theorem reach_ploss {md th sl : Nat} {s : S} (h : Reach md th sl s) : PLoss md th sl s :=
  h.induct (ploss_init md th sl) fun hr => ploss_step (reach_inv hr) (reach_pbase hr)

end Amshan.ConnMgr
