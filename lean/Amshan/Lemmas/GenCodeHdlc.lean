import Amshan.Lemmas.GenCodeBase
import Amshan.GeneratedCodeHdlc
import Amshan.Model.Hdlc
/- The accessors of `HdlcFrameHeader` and `HdlcFrame` (han/hdlc.py).  They take the frame's `data` and cached control
   position as explicit arguments and hold for every such pair: no frame invariant is needed. -/
set_option linter.unusedSimpArgs false   -- simp sets are deliberately wider than one spelling of the source needs
namespace Amshan.GenLemmas
open Amshan.GenCode Amshan.Gen Amshan.Hdlc

theorem hdlcFrameFormat_eq (f : Hdlc.Frame) : hdlcFrameFormat f.data = f.frameFormat := by
  unfold hdlcFrameFormat Hdlc.Frame.frameFormat
  rcases f.data with _ | ⟨a, _ | ⟨b, t⟩⟩ <;> simp <;> gen_decide

theorem hdlcFrameFormatType_eq (f : Hdlc.Frame) : hdlcFrameFormatType f.data = f.formatType := by
  unfold hdlcFrameFormatType Hdlc.Frame.formatType
  try simp only [hdlcFrameFormat_eq]
  cases f.frameFormat <;> simp <;> gen_decide

theorem hdlcSegmentation_eq (f : Hdlc.Frame) : hdlcSegmentation f.data = f.segmentation := by
  unfold hdlcSegmentation Hdlc.Frame.segmentation
  try simp only [hdlcFrameFormat_eq]
  cases f.frameFormat <;> simp <;> gen_decide

theorem hdlcFrameLength_eq (f : Hdlc.Frame) : hdlcFrameLength f.data = f.frameLength := by
  unfold hdlcFrameLength Hdlc.Frame.frameLength
  try simp only [hdlcFrameFormat_eq]
  cases f.frameFormat <;> simp <;> gen_decide

theorem hdlcInformationPosition_eq (f : Hdlc.Frame) : hdlcInformationPosition f.ctlPos = f.infoPos := by
  unfold hdlcInformationPosition Hdlc.Frame.infoPos
  cases f.ctlPos <;> simp <;> gen_decide

theorem hdlcControl_eq (f : Hdlc.Frame) : hdlcControl f.data f.ctlPos = f.control := by
  rcases f with ⟨data, crc, cp⟩
  unfold hdlcControl Hdlc.Frame.control Hdlc.Frame.len
  cases cp <;> simp <;> gen_decide

theorem hdlcHeaderCheckSequence_eq (f : Hdlc.Frame) : hdlcHeaderCheckSequence f.data f.ctlPos = f.hcs := by
  rcases f with ⟨data, crc, cp⟩
  unfold hdlcHeaderCheckSequence Hdlc.Frame.hcs Hdlc.Frame.len
  cases cp <;> simp <;> gen_decide

/-- `_get_address` is a `while True:` loop, translated as a recursion on fuel that answers `oof` when the fuel is used
    up.  For every `oof` and every fuel larger than the number of octets left it is the model's recursion — so the
    fuel that `hdlcGetAddress` grants never runs out. -/
theorem hdlcGetAddress_loop_eq (data : List Nat) (position : Nat) (oof : Option (List Nat)) :
    ∀ (fuel : Nat) (adr : List Nat) (i cur : Nat), i ≤ data.length → data.length < fuel + i →
      hdlcGetAddress.loop1 data position oof fuel adr i data cur
        = (Hdlc.getAddressFrom (data.drop i)).map (adr ++ ·) := by
  intro fuel
  induction fuel with
  | zero => intro adr i cur h1 h2; omega
  | succ n ih =>
    intro adr i cur h1 h2
    unfold hdlcGetAddress.loop1
    by_cases hi : i < data.length
    · have hodd : data[i] % 2 = 1 ∨ data[i] % 2 = 0 := by omega
      rw [List.drop_eq_getElem_cons hi]
      rcases hodd with hodd | hodd <;>
        simp [Hdlc.getAddressFrom, hi, hodd, Nat.and_one_is_mod, ih, Function.comp_def] <;> gen_decide
    · have : data.drop i = [] := List.drop_eq_nil_of_le (by omega)
      simp [hi, this, Hdlc.getAddressFrom] <;> gen_decide

theorem hdlcGetAddress_eq (data : List Nat) (position : Nat) :
    hdlcGetAddress data position = Hdlc.getAddress data position := by
  unfold hdlcGetAddress Hdlc.getAddress
  by_cases h : position < data.length
  · simp [h]
    rw [hdlcGetAddress_loop_eq _ _ _ _ _ _ _ (by omega) (by omega)]
    all_goals simp
  · simp [h] <;> gen_decide

theorem hdlcDestinationAddress_eq (data : List Nat) : hdlcDestinationAddress data = Hdlc.destAddr data := by
  unfold hdlcDestinationAddress Hdlc.destAddr
  simp only [hdlcGetAddress_eq]
  gen_decide

theorem hdlcSourceAddress_eq (data : List Nat) : hdlcSourceAddress data = Hdlc.srcAddr data := by
  unfold hdlcSourceAddress Hdlc.srcAddr
  simp only [hdlcGetAddress_eq, hdlcDestinationAddress_eq]
  cases Hdlc.destAddr data <;> simp <;> gen_decide

theorem hdlcGetControlFieldPosition_eq (data : List Nat) :
    hdlcGetControlFieldPosition data = Hdlc.controlPos data := by
  unfold hdlcGetControlFieldPosition Hdlc.controlPos
  simp only [hdlcSourceAddress_eq, hdlcDestinationAddress_eq]
  -- without a destination address there is no source address (for sources that test only the latter)
  have hsrc : Hdlc.destAddr data = none → Hdlc.srcAddr data = none := by intro h; simp [Hdlc.srcAddr, h]
  cases hd : Hdlc.destAddr data <;> cases hs : Hdlc.srcAddr data <;> simp_all <;> gen_decide

/-- `HdlcFrameHeader.update()`; the second component, the cached `_is_header_good`, is not modelled. -/
theorem hdlcHeaderUpdate_fst (data : List Nat) (g : Bool) (cp : Option Nat) (hg : Option Bool) :
    (hdlcHeaderUpdate data g cp hg).1 =
      (match cp with
       | some p => some p
       | none => if data.length > 3 then Hdlc.controlPos data else none) := by
  unfold hdlcHeaderUpdate
  simp only [hdlcGetControlFieldPosition_eq]
  cases cp <;> cases hg <;> cases hc : Hdlc.controlPos data <;> simp <;> gen_decide

theorem hdlcHeaderUpdate_append (f : Hdlc.Frame) (b : Nat) (g : Bool) (hg : Option Bool) :
    (hdlcHeaderUpdate (f.data ++ [b]) g f.ctlPos hg).1 = (f.append b).ctlPos := by
  rw [hdlcHeaderUpdate_fst]; rfl

theorem hdlcIsGoodFfc_eq (f : Hdlc.Frame) : hdlcIsGoodFfc (Fcs.isGood f.crc) = f.isGoodFfc := by
  unfold hdlcIsGoodFfc Hdlc.Frame.isGoodFfc; gen_decide

theorem hdlcIsExpectedLength_eq (f : Hdlc.Frame) : hdlcIsExpectedLength f.data = f.isExpectedLength := by
  unfold hdlcIsExpectedLength Hdlc.Frame.isExpectedLength Hdlc.Frame.len
  try simp only [hdlcFrameLength_eq]
  all_goals (cases f.frameLength <;> simp <;> gen_decide)

theorem hdlcFrameCheckSequence_eq (f : Hdlc.Frame) : hdlcFrameCheckSequence f.data f.ctlPos = f.fcsField := by
  rcases f with ⟨data, crc, cp⟩
  unfold hdlcFrameCheckSequence hdlcInformationPosition Hdlc.Frame.fcsField Hdlc.Frame.infoPos Hdlc.Frame.len
  cases cp <;> simp <;> gen_decide

/-- The translation computes `len(data) - 2` in `Nat` (truncated); Python would index from the end for a negative
    value.  Whenever `frame_check_sequence` answers a number the frame has at least 3 octets (the information
    position is a control position + 3), so no subtraction is truncated. -/
theorem hdlcFrameCheckSequence_guard (data : List Nat) (cp : Option Nat)
    (h : (hdlcFrameCheckSequence data cp).isSome) : 3 ≤ data.length := by
  unfold hdlcFrameCheckSequence hdlcInformationPosition at h
  cases cp <;> simp at h <;> gen_decide

theorem hdlcPayload_eq (f : Hdlc.Frame) : hdlcPayload f.data f.ctlPos = f.payload := by
  unfold hdlcPayload Hdlc.Frame.payload Hdlc.Frame.len sliceNegEnd
  try simp only [hdlcInformationPosition_eq]
  cases f.infoPos <;> simp <;> gen_decide

theorem hdlcIsValid_eq (f : Hdlc.Frame) : hdlcIsValid f.isGoodFfc f.data = f.isValid := by
  unfold hdlcIsValid Hdlc.Frame.isValid
  try simp only [hdlcIsExpectedLength_eq]
  all_goals (cases f.isGoodFfc <;> cases f.isExpectedLength <;> simp <;> gen_decide)

end Amshan.GenLemmas
