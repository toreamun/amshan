import Amshan.Lemmas.Auto
import Amshan.Model.Decoders
import Amshan.Lemmas.P1ParseRTTerm
import Amshan.Lemmas.KamstrupRT
/-
  The concrete decoder list written out, and that the elements of the two `GreedyRange` loops
  consume input (`Uses`, Lemmas/CosemDT.lean), which makes their fuel irrelevant (C15).
-/
namespace Amshan.DecTotal
open Amshan.Gen Amshan.Cosem Amshan.Dec Amshan.Auto Amshan.CosemDT

theorem decoders_eq : decoders =
    [fun p => ofOut (Aidon.decodeFrame p), fun p => ofOut (Kaifa.decodeFrame p),
     fun p => ofOut (Kamstrup.decodeFrame p), P1Parse.decodeContent,
     fun p => ofOut (Aidon.decodeBody p), fun p => ofOut (Kaifa.decodeBody p),
     fun p => ofOut (Kamstrup.decodeBody p)] := by
  rfl

theorem caught_all (e : PyExc) : caught e = true := by
  cases e <;> decide

theorem tArray_eq : tArray = 1 := CosemDT.tArray_eq
theorem tU32_eq : tU32 = 6 := CosemDT.tU32_eq
theorem tVisible_eq : tVisible = 10 := CosemDT.tVisible_eq
theorem tInt8_eq : tInt8 = 15 := CosemDT.tInt8_eq
theorem tInt16_eq : tInt16 = 16 := CosemDT.tInt16_eq
theorem tU16_eq : tU16 = 18 := CosemDT.tU16_eq
theorem tEnum_eq : tEnum = 22 := CosemDT.tEnum_eq

/-- the OBIS code is optional and the null-data padding may be empty: the octet comes from the value -/
theorem kamstrup_element_uses : Uses 1 Kamstrup.element := by
  refine Uses.bind (m := 0) (n := 1) (fun s o r h => ?_) fun _ =>
    Uses.bind (m := 1) (n := 0) (fun s v r h => ?_) fun _ => .ok _ nullData nullData_len
  · split at h
    · split at h
      · exact (obisField_uses.map _).mono (Nat.zero_le _) h
      · cases h; exact Nat.le_refl _
    · cases h; exact Nat.le_refl _
  · split at h
    · split at h
      · exact (dateTimeField_uses.map _).mono (by omega) h
      · exact field_uses h
    · exact field_uses h

theorem kaifa_obisElement_uses : Uses 9 Kaifa.obisElement :=
  obisField_uses.bind fun _ => field_uses.map _

theorem kamstrup_greedy_count : ∀ (f : Nat) (s : List Nat) (es : List Kamstrup.Element) (r : List Nat),
    Kamstrup.greedy f s = .ok es r → es.length + r.length ≤ s.length :=
  KamstrupRT.kamstrup_isGreedy.count kamstrup_element_uses

end Amshan.DecTotal
