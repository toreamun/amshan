import Amshan.Model.Kamstrup
import Amshan.Spec.Lists
import Amshan.Lemmas.CosemDT
import Amshan.Lemmas.KaifaRT
import Amshan.Lemmas.Obis
/-
  Kamstrup lists read back (C09).  The scaling tables and the meter-type test are
  keyed by the dotted text of the OBIS code, so that text must determine the code: `Obis.parse` (C20)
  reads it back.
-/
namespace Amshan.KamstrupRT
open Amshan.Gen Amshan.Cosem Amshan.ListSpec Amshan.CosemDT Amshan.KaifaRT

/-- the dotted text of six octets is the six-part form that `to_obis_tupple` reads back (C20) -/
theorem parse_obisText {a b c d e f : Nat} (h : Obis6 [a, b, c, d, e, f]) :
    Obis.parse (obisText [a, b, c, d, e, f]) = .ok (some a, some b, c, d, some e, some f) := by
  obtain ⟨ha, hb, hc, hd, he, hf⟩ := obis6_lt h
  have hs : obisText [a, b, c, d, e, f] = ObisSpec.standard a b c d e f := by
    simp only [obisText, ObisSpec.standard, Obis.showNat_eq_dec a (by omega), Obis.showNat_eq_dec b (by omega),
      Obis.showNat_eq_dec c (by omega), Obis.showNat_eq_dec d (by omega), Obis.showNat_eq_dec e (by omega),
      Obis.showNat_eq_dec f (by omega)]
  rw [hs]
  exact Obis.parse_standard a b c d e f (by omega) (by omega) (by omega) (by omega) (by omega) (by omega)

theorem obisText_inj {o o' : List Nat} (h : Obis6 o) (h' : Obis6 o') (heq : obisText o = obisText o') :
    o = o' := by
  obtain ⟨a, b, c, d, e, f, rfl⟩ := obis6_cases h.1
  obtain ⟨a', b', c', d', e', f', rfl⟩ := obis6_cases h'.1
  have p := parse_obisText h
  rw [heq, parse_obisText h'] at p
  cases p
  rfl

theorem showNat_ascii {a : Nat} (h : a < 256) : ascii7 (Obis.showNat a) := fun c hc => by
  have h' : a < 1000 := by omega
  have := (P1L.isDigit_iff c).1 ((Obis.dec_group a h').2 c (Obis.showNat_eq_dec a h' ▸ hc))
  omega

theorem obisText_ascii (o : List Nat) (h : Obis6 o) : ascii7 (obisText o) := by
  obtain ⟨a, b, c, d, e, f, rfl⟩ := obis6_cases h.1
  obtain ⟨ha, hb, hc, hd, he, hf⟩ := obis6_lt h
  have dot : 46 < 128 := by decide
  simp only [obisText, ascii7, List.forall_mem_append, List.forall_mem_singleton, and_assoc]
  exact ⟨showNat_ascii ha, dot, showNat_ascii hb, dot, showNat_ascii hc, dot, showNat_ascii hd, dot,
    showNat_ascii he, dot, showNat_ascii hf⟩

theorem obisKey_inj {o o' : List Nat} (h : Obis6 o) (h' : Obis6 o')
    (e : Py.toString (obisText o) = Py.toString (obisText o')) : o = o' := by
  apply obisText_inj h h'
  rw [← P1L.ofString_toString _ (obisText_ascii o h), ← P1L.ofString_toString _ (obisText_ascii o' h'), e]

def scaledCodes : List (List Nat) :=
  [[1, 1, 1, 8, 0, 255], [1, 1, 2, 8, 0, 255], [1, 1, 3, 8, 0, 255], [1, 1, 31, 7, 0, 255],
   [1, 1, 4, 8, 0, 255], [1, 1, 51, 7, 0, 255], [1, 1, 71, 7, 0, 255]]

theorem scaledCodes_obis6 : ∀ c ∈ scaledCodes, Obis6 c := by decide

theorem keys_eq (ct : Bool) : (if ct then kamScalingCt else kamScalingStd).map (·.1) =
    scaledCodes.map (fun o => Py.toString (obisText o)) := by
  cases ct <;> decide

theorem scaleFor_none (ct : Bool) (o : List Nat) (h : Obis6 o) (hn : o ∉ scaledCodes) :
    Kamstrup.scaleFor ct o = none := by
  apply P1L.lookup_none
  rw [keys_eq]
  intro hm
  obtain ⟨code, hcode, e⟩ := List.mem_map.mp hm
  exact hn (obisKey_inj h (scaledCodes_obis6 code hcode) e.symm ▸ hcode)

/-- `if scale: round(value * 10**scale, abs(scale)) else: value` of `_normalize_parsed_items`
    (kamstrup.py), for the entry `field_scaling.get(obis)` -/
def valOfScale (sc : Option Int) (z : Int) : Val :=
  match sc with
  | some s => if s = 0 then .int z else Kamstrup.scaled z s
  | none => .int z

theorem scaled_neg (hF : ScaledOK) (z : Nat) (hz : z < 4294967296) (s : Nat) (hs : s = 1 ∨ s = 2 ∨ s = 3) :
    Kamstrup.scaled (z : Int) (-(s : Int)) = divPow10 z s :=
  KaifaRT.scaled_neg hF z hz s hs      -- `kamstrup.py` and `kaifa.py` scale by the same expression

theorem scaled_one (z : Nat) : Kamstrup.scaled (z : Int) 1 = .int ((z * 10 : Nat) : Int) := by
  simp [Kamstrup.scaled]

/-- the scale tables say what is documented: currents /100 (CT meters /1000), energies ×10, no other code -/
theorem scaleFor_eq (ct : Bool) (o : List Nat) (h : Obis6 o) : Kamstrup.scaleFor ct o =
    if o = [1, 1, 31, 7, 0, 255] ∨ o = [1, 1, 51, 7, 0, 255] ∨ o = [1, 1, 71, 7, 0, 255] then
      some (if ct then -3 else -2)
    else if o = [1, 1, 1, 8, 0, 255] ∨ o = [1, 1, 2, 8, 0, 255] ∨ o = [1, 1, 3, 8, 0, 255] ∨ o = [1, 1, 4, 8, 0, 255] then
      some 1
    else none := by
  by_cases hm : o ∈ scaledCodes
  · clear h
    revert ct o
    decide
  · rw [scaleFor_none ct o h hm]
    simp only [scaledCodes, List.mem_cons, List.not_mem_nil, or_false, not_or] at hm
    simp [hm]

theorem valOfScale_spec (hF : ScaledOK) (ct : Bool) (o : List Nat) (h : Obis6 o) (v : Nat)
    (hv : v < 4294967296) : valOfScale (Kamstrup.scaleFor ct o) v = kamScaled ct o v := by
  rw [scaleFor_eq ct o h]
  unfold kamScaled
  split
  · cases ct
    · exact scaled_neg hF v hv 2 (by simp)
    · exact scaled_neg hF v hv 3 (by simp)
  · split
    · exact scaled_one v
    · rfl

def toKField : KamVal → FieldVal
  | .text s => .str s
  | .u32 v => .int v
  | .u16 v => .int v
  | .clock d => .dt (expectedDT d)

def toElem (e : KamElem) : Kamstrup.Element := ⟨some e.obis, toKField e.value⟩

def encElem (e : KamElem) : List Nat := encObis e.obis ++ encKamVal e.value ++ List.replicate e.pad 0

/-- the value part of `Kamstrup.element` under a name, so that the element is two binds (`element_eq`) -/
def valR (r : List Nat) : Res FieldVal :=
  match r with
  | b :: _ => if b = tOctet then (dateTimeField r).bind fun d r' => .ok (.dt d) r' else field r
  | [] => field r

theorem valR_of_ne {b : Nat} (hb : b ≠ 9) (r : List Nat) : valR (b :: r) = field (b :: r) := by
  rw [valR, tOctet_eq, if_neg hb]

theorem valR_enc (v : KamVal) (h : v.WF) (r : List Nat) : valR (encKamVal v ++ r) = .ok (toKField v) r := by
  cases v with
  | text s => exact (valR_of_ne (b := 10) (by decide) _).trans (field_visible_enc s h.1 r)
  | u32 v => exact (valR_of_ne (b := 6) (by decide) _).trans (field_u32_enc v h r)
  | u16 v => exact (valR_of_ne (b := 18) (by decide) _).trans (field_u16_enc v h r)
  | clock d =>
    show valR (9 :: (encDateTime d ++ r)) = _
    rw [valR, tOctet_eq, if_pos rfl]
    exact congrArg (Res.bind · _) (datetime_in_dateTimeField d h r)

theorem element_eq (s : List Nat) :
    Kamstrup.element s =
      ((match s with
        | b :: _ => if b = tOctet then (obisField s).bind fun o r => .ok (some o) r else .ok none s
        | [] => .ok none s : Res (Option (List Nat)))).bind fun o r =>
        (valR r).bind fun v r' => .ok ⟨o, v⟩ (nullData r') := rfl

theorem element_enc (e : KamElem) (h : e.WF) (rest : List Nat) (hr : rest.head? ≠ some 0) :
    Kamstrup.element (encElem e ++ rest) = .ok (toElem e) rest := by
  rw [element_eq]
  have ho := obisField_enc e.obis h.1.1 (encKamVal e.value ++ (List.replicate e.pad 0 ++ rest))
  simp only [encElem, encObis, List.cons_append, List.nil_append, List.append_assoc, tOctet_eq, if_true] at ho ⊢
  rw [ho, bind_ok, bind_ok, valR_enc e.value h.2.1, bind_ok, nullData_replicate e.pad rest hr]
  rfl

theorem element_version (s : List Nat) (hp : printable s) (hl : s.length ≤ 255) (p : Nat) (rest : List Nat) (hr : rest.head? ≠ some 0) :
    Kamstrup.element ([10, s.length] ++ s ++ List.replicate p 0 ++ rest) = .ok ⟨none, .str s⟩ rest := by
  rw [element_eq]
  have hv := valR_enc (.text s) ⟨hp, hl⟩ (List.replicate p 0 ++ rest)
  simp only [encKamVal, List.cons_append, List.nil_append, List.append_assoc, tOctet_eq] at hv ⊢
  rw [if_neg (by decide), bind_ok, hv, bind_ok, nullData_replicate p rest hr]
  rfl

theorem element_nil : Kamstrup.element [] = .soft := rfl

theorem noNull_flatMap (es : List KamElem) : (es.flatMap encElem).head? ≠ some 0 := by
  cases es with
  | nil => nofun
  | cons e es => simp [encElem, encObis]

theorem kamstrup_isGreedy : IsGreedy Kamstrup.element Kamstrup.greedy :=
  ⟨fun _ => rfl, fun f s => by rw [Kamstrup.greedy]; cases Kamstrup.element s <;> rfl⟩

theorem encKamList_eq (l : KamList) :
    encKamList l = 2 :: l.lenOctet ::
      ([10, l.version.length] ++ l.version ++ List.replicate l.versionPad 0 ++ l.elems.flatMap encElem) := by
  have : (fun e : KamElem => encObis e.obis ++ encKamVal e.value ++ List.replicate e.pad 0) = encElem := rfl
  unfold encKamList
  rw [this]
  simp only [List.cons_append, List.nil_append, List.append_assoc]

theorem notificationBody_enc (l : KamList) (h : l.WF) :
    Kamstrup.notificationBody (encKamList l) =
      .ok (⟨none, .str l.version⟩ :: l.elems.map toElem) [] := by
  rw [encKamList_eq]
  unfold Kamstrup.notificationBody
  simp only [tStructure_eq, constByte_cons, bind_ok, u8_cons]
  rw [Kamstrup.greedy, element_version l.version h.2.1 h.2.2.1 l.versionPad _ (noNull_flatMap l.elems)]
  dsimp only
  rw [kamstrup_isGreedy.enc element_nil (dec := toElem) l.elems
    (fun e he ys => element_enc e (h.2.2.2 e he) _ (noNull_flatMap ys))]
  · rfl
  · simp only [List.length_append, List.length_cons]
    omega

theorem notificationBody_wants : Wants 2 Kamstrup.notificationBody :=
  tStructure_eq ▸ wants_constByte tStructure _

theorem meterType_pred (o : List Nat) (h : Obis6 o) :
    (obisText o == Kamstrup.meterTypeObis) = decide (o = [1, 1, 96, 1, 1, 255]) := by
  rw [show Kamstrup.meterTypeObis = obisText [1, 1, 96, 1, 1, 255] by decide, Bool.beq_eq_decide_eq]
  exact decide_eq_decide.2 ⟨obisText_inj h (by decide), congrArg obisText⟩

def ctPred (el : Kamstrup.Element) : Bool :=
  match el.obis with | some o => obisText o == Kamstrup.meterTypeObis | none => false

theorem isCtMeter_eq (items : List Kamstrup.Element) :
    Kamstrup.isCtMeter items =
      match items.find? ctPred with
      | some el => (match el.value with | .str s => Kamstrup.ctPrefix.isPrefixOf s | _ => false)
      | none => false := rfl

theorem isCt_eq (l : KamList) (h : l.WF) :
    Kamstrup.isCtMeter (⟨none, .str l.version⟩ :: l.elems.map toElem) = kamIsCt l := by
  rw [isCtMeter_eq]
  unfold kamIsCt kamMeterType
  rw [List.find?_cons, show ctPred ⟨none, .str l.version⟩ = false from rfl]
  simp only [List.find?_map]
  rw [P1L.find?_congr (ctPred ∘ toElem) (fun e => decide (e.obis = [1, 1, 96, 1, 1, 255])) l.elems
    (fun e he => meterType_pred e.obis (h.2.2.2 e he).1)]
  cases l.elems.find? (fun e => decide (e.obis = [1, 1, 96, 1, 1, 255])) with
  | none => rfl
  | some e =>
    obtain ⟨o, v, p⟩ := e
    cases v <;> simp [toElem, toKField] <;> rfl

theorem normLoop_int (ct : Bool) (name : String) (hne : name ≠ "meter_datetime") (a b c dd e f : Nat)
    (hn : obisNameMap.lookup (cdeText c dd e) = some name) (z : Int) (rest : List Kamstrup.Element) (d : Dict) :
    Kamstrup.normLoop ct (⟨some [a, b, c, dd, e, f], .int z⟩ :: rest) d =
      Kamstrup.normLoop ct rest (d.set name (valOfScale (Kamstrup.scaleFor ct [a, b, c, dd, e, f]) z)) := by
  have hne' : (name == field_METER_DATETIME) = false := by simpa [field_METER_DATETIME] using hne
  rw [Kamstrup.normLoop]
  simp only [hn, hne']
  cases Kamstrup.scaleFor ct [a, b, c, dd, e, f] with
  | none => simp [valOfScale]
  | some s => by_cases hs : s = 0 <;> simp [valOfScale, hs]

theorem normLoop_step (hF : ScaledOK) (ct : Bool) (el : KamElem) (h : el.WF) (rest : List Kamstrup.Element)
    (d : Dict) :
    Kamstrup.normLoop ct (toElem el :: rest) d =
      Kamstrup.normLoop ct rest (d.set (obisName el.obis) (kamVal ct el.obis el.value)) := by
  obtain ⟨o, v, p⟩ := el
  obtain ⟨ho6, hv, hk, hclk⟩ := h
  simp only at ho6 hv hk hclk
  obtain ⟨a, b, c, dd, e, f, rfl⟩ := obis6_cases ho6.1
  simp only [kamKnown] at hk
  obtain ⟨name, hn⟩ := Option.isSome_iff_exists.mp hk
  have hname : obisName [a, b, c, dd, e, f] = name := by
    simp only [obisName, fieldName, hn]
  rw [hname] at hclk ⊢
  cases v with
  | text s =>
    have hne : (name == field_METER_DATETIME) = false := by simpa [field_METER_DATETIME] using hclk
    rw [Kamstrup.normLoop]
    simp only [toElem, toKField, hn, hne, kamVal]
    simp
  | u32 z =>
    simp only [toElem, toKField, kamVal]
    rw [normLoop_int ct name hclk a b c dd e f hn, valOfScale_spec hF ct _ ho6 z hv]
  | u16 z =>
    have hz : z < 4294967296 := by have : z < 65536 := hv; omega
    simp only [toElem, toKField, kamVal]
    rw [normLoop_int ct name hclk a b c dd e f hn, valOfScale_spec hF ct _ ho6 z hz]
  | clock t =>
    simp only at hclk
    subst hclk
    rw [Kamstrup.normLoop]
    simp only [toElem, toKField, hn, kamVal]
    simp [field_METER_DATETIME]

theorem normLoop_version (ct : Bool) (s : List Nat) (rest : List Kamstrup.Element) (d : Dict) :
    Kamstrup.normLoop ct (⟨none, .str s⟩ :: rest) d = Kamstrup.normLoop ct rest (d.set "list_ver_id" (.str s)) := by
  rw [Kamstrup.normLoop]
  simp [field_OBIS_LIST_VER_ID, field_METER_DATETIME]

theorem normalize_ok (hF : ScaledOK) (l : KamList) (h : l.WF) :
    Kamstrup.normalize (⟨none, .str l.version⟩ :: l.elems.map toElem) = .ok (kamExpected l) := by
  unfold Kamstrup.normalize
  rw [isCt_eq l h, normLoop_version]
  exact loop_foldl (loop := Kamstrup.normLoop _) (fun _ => rfl) l.elems _ fun e he =>
    normLoop_step hF _ e (h.2.2.2 e he)

theorem decodeFrame_header (hd : Header) (hh : hd.WF) (s : List Nat) :
    Kamstrup.decodeFrame (encHeader hd ++ s) =
      match Kamstrup.decodeBody s with
      | .dict d => (match clockOf hd.clock with
          | .dt t => .dict (d.set field_METER_DATETIME (.dt t))
          | .byte _ => .exc .attributeError)
      | o => o := by
  unfold Kamstrup.decodeFrame Kamstrup.decodeBody
  rw [llc_clock hd hh]
  cases Kamstrup.notificationBody s with
  | ok items r => simp only [bind_ok]; cases Kamstrup.normalize items <;> rfl
  | soft => rfl
  | explicit => rfl
  | py e => rfl

end Amshan.KamstrupRT
