import Amshan.Lemmas.HdlcStep
/-
  The buffer-level reader (`loop` / `read` / `readAll`) equals the octet-at-a-time machine (`run`).
-/
namespace Amshan.Hdlc
open Amshan.Gen

@[simp] theorem gotoHunt_frame (c : Core) : (gotoHunt c).frame = none := rfl

theorem notFlag_eq_true {x : Nat} : notFlag x = true ↔ x ≠ flagOctet := by
  simp [notFlag]

theorem notFlag_eq_false {x : Nat} : notFlag x = false ↔ x = flagOctet := by
  simp [notFlag]

@[simp] theorem run_nil (cfg : Cfg) (c : Core) : run cfg c [] = (c, []) := rfl

theorem run_cons (cfg : Cfg) (c : Core) (x : Nat) (xs : List Nat) :
    run cfg c (x :: xs) =
      ((run cfg (stepOctet cfg c x).1 xs).1,
       (stepOctet cfg c x).2 ++ (run cfg (stepOctet cfg c x).1 xs).2) := rfl

theorem run_cons_frames (cfg : Cfg) (c : Core) (x : Nat) (xs : List Nat) :
    (run cfg c (x :: xs)).2 = (stepOctet cfg c x).2 ++ (run cfg (stepOctet cfg c x).1 xs).2 := rfl

theorem run_append (cfg : Cfg) (c : Core) (a b : List Nat) :
    run cfg c (a ++ b) =
      ((run cfg (run cfg c a).1 b).1, (run cfg c a).2 ++ (run cfg (run cfg c a).1 b).2) := by
  induction a generalizing c with
  | nil => simp only [List.nil_append, run_nil, List.nil_append]
  | cons x xs ih =>
    simp only [List.cons_append, run_cons, ih, List.append_assoc]

theorem run_append_core (cfg : Cfg) (c : Core) (a b : List Nat) :
    (run cfg c (a ++ b)).1 = (run cfg (run cfg c a).1 b).1 := by
  rw [run_append]

theorem run_append_frames (cfg : Cfg) (c : Core) (a b : List Nat) :
    (run cfg c (a ++ b)).2 = (run cfg c a).2 ++ (run cfg (run cfg c a).1 b).2 := by
  rw [run_append]

/-- in hunt mode the machine skips everything before the next flag: trimming the buffer to that flag
    (`trim_buffer_to_flag_or_end`) changes nothing -/
theorem run_hunt_dropWhile (cfg : Cfg) (c : Core) (u : List Nat) (hc : c.frame = none) :
    run cfg c u = run cfg c (u.dropWhile notFlag) := by
  induction u with
  | nil => rfl
  | cons x xs ih =>
    cases hx : notFlag x with
    | true =>
      rw [List.dropWhile_cons_of_pos hx, ← ih, run_cons,
        stepOctet_hunt_other cfg hc (notFlag_eq_true.mp hx)]
      simp only [List.nil_append]
    | false =>
      rw [List.dropWhile_cons_of_neg (by simp [hx])]

theorem run_hunt_noflag (cfg : Cfg) (c : Core) (s : List Nat) (hc : c.frame = none)
    (hs : flagOctet ∉ s) : run cfg c s = (c, []) := by
  induction s with
  | nil => rfl
  | cons x xs ih =>
    rw [run_cons, stepOctet_hunt_other cfg hc fun e => hs (e ▸ List.mem_cons_self),
      ih fun h => hs (List.mem_cons_of_mem _ h)]
    rfl

theorem loop_eq_run (cfg : Cfg) (c : Core) (b : Buf) (out : List Frame) :
    (loop cfg c b out).1 = (run cfg c b.inp).1 ∧
    (loop cfg c b out).2.1.inp = [] ∧
    (loop cfg c b out).2.2 = out ++ (run cfg c b.inp).2 := by
  fun_induction loop cfg c b out with
  | case1 c b out h =>
    simp only [h, run_nil, List.append_nil, and_self]
  | case2 c b out x rest h b1 c1 hrn ih =>
    have hs : stepOctet cfg c x = (c1, []) := by unfold stepOctet; rw [hrn]
    rw [h, run_cons, hs]
    simpa only [List.nil_append] using ih
  | case3 c b out x rest h b1 c1 hrn ih =>
    have hs : stepOctet cfg c x = (c1, []) := by unfold stepOctet; rw [hrn]
    have hf : c1.frame = none := (readNext_act hrn).1 rfl
    rw [h, run_cons, hs]
    have : (b1.trimToFlagOrEnd).inp = rest.dropWhile notFlag := rfl
    rw [this, ← run_hunt_dropWhile cfg c1 rest hf] at ih
    simpa only [List.nil_append] using ih
  | case4 c b out x rest h b1 c1 hrn ih =>
    have hs : stepOctet cfg c x = (startFrame c1, c1.frame.toList) := by
      unfold stepOctet; rw [hrn]
    rw [h, run_cons, hs]
    have : (b1.trimToPos).inp = rest := rfl
    rw [this] at ih
    simpa only [List.append_assoc] using ih

theorem read_eq_run (cfg : Cfg) (r : Reader) (chunk : List Nat) (hr : r.buf = Buf.empty) :
    read cfg r chunk =
      ({ core := (run cfg r.core chunk).1, buf := Buf.empty }, (run cfg r.core chunk).2) := by
  unfold read
  rw [hr]
  dsimp only
  generalize hb : (if r.core.frame.isNone = true then (Buf.empty.extend chunk).trimToFlagOrEnd
    else Buf.empty.extend chunk) = b1
  -- in hunt mode the trimmed octets would have been skipped anyway
  have hrun : run cfg r.core b1.inp = run cfg r.core chunk := by
    subst hb
    split
    · next h => exact (run_hunt_dropWhile cfg r.core chunk (Option.isNone_iff_eq_none.mp h)).symm
    · rfl
  obtain ⟨h1, h2, h3⟩ := loop_eq_run cfg r.core b1 []
  rw [hrun] at h1 h3
  simp only [h1, h2, h3, Buf.trimToPos, Buf.empty, List.nil_append]

theorem read_buf_empty (cfg : Cfg) (r : Reader) (chunk : List Nat) (hr : r.buf = Buf.empty) :
    (read cfg r chunk).1.buf = Buf.empty := by
  rw [read_eq_run cfg r chunk hr]

theorem read_core (cfg : Cfg) (r : Reader) (chunk : List Nat) (hr : r.buf = Buf.empty) :
    (read cfg r chunk).1.core = (run cfg r.core chunk).1 := by
  rw [read_eq_run cfg r chunk hr]

theorem read_frames (cfg : Cfg) (r : Reader) (chunk : List Nat) (hr : r.buf = Buf.empty) :
    (read cfg r chunk).2 = (run cfg r.core chunk).2 := by
  rw [read_eq_run cfg r chunk hr]

@[simp] theorem readAll_nil (cfg : Cfg) (r : Reader) : readAll cfg r [] = (r, []) := rfl

theorem readAll_cons (cfg : Cfg) (r : Reader) (ch : List Nat) (chs : List (List Nat)) :
    readAll cfg r (ch :: chs) =
      ((readAll cfg (read cfg r ch).1 chs).1,
       (read cfg r ch).2 :: (readAll cfg (read cfg r ch).1 chs).2) := rfl

theorem readAll_eq_run (cfg : Cfg) (r : Reader) (chunks : List (List Nat))
    (hr : r.buf = Buf.empty) :
    (readAll cfg r chunks).2.flatten = (run cfg r.core chunks.flatten).2 ∧
    (readAll cfg r chunks).1 = { core := (run cfg r.core chunks.flatten).1, buf := Buf.empty } := by
  induction chunks generalizing r with
  | nil =>
    simp only [readAll_nil, List.flatten_nil, run_nil, true_and]
    cases r with
    | mk core buf => simp only at hr; rw [hr]
  | cons ch chs ih =>
    obtain ⟨ih1, ih2⟩ := ih (read cfg r ch).1 (read_buf_empty cfg r ch hr)
    rw [readAll_cons]
    simp only [List.flatten_cons, run_append, ih1, ih2, read_core cfg r ch hr, read_frames cfg r ch hr,
      and_self]

theorem readAll_frames (cfg : Cfg) (r : Reader) (chunks : List (List Nat))
    (hr : r.buf = Buf.empty) :
    (readAll cfg r chunks).2.flatten = (run cfg r.core chunks.flatten).2 :=
  (readAll_eq_run cfg r chunks hr).1

theorem readAll_init (cfg : Cfg) (chunks : List (List Nat)) :
    (readAll cfg Reader.init chunks).2.flatten = (run cfg Core.init chunks.flatten).2 :=
  readAll_frames cfg Reader.init chunks rfl

theorem readAll_core (cfg : Cfg) (r : Reader) (chunks : List (List Nat))
    (hr : r.buf = Buf.empty) :
    (readAll cfg r chunks).1.core = (run cfg r.core chunks.flatten).1 := by
  rw [(readAll_eq_run cfg r chunks hr).2]

theorem Reader.init_buf : Reader.init.buf = Buf.empty := rfl

theorem Reachable.buf_empty {cfg : Cfg} {r : Reader} (h : Reachable cfg r) : r.buf = Buf.empty := by
  obtain ⟨chunks, rfl⟩ := h
  rw [(readAll_eq_run cfg Reader.init chunks Reader.init_buf).2]

end Amshan.Hdlc
