import Amshan.Lemmas.DecOwn
import Amshan.Lemmas.KamstrupRT
import Amshan.Lemmas.P1ParseRTDecode
/-
  Which decoders reject a BARE notification body (no LLC/APDU header) on a fresh AutoDecoder.  The
  three frame decoders read eight octets (LLC, APDU tag, invoke-id) and then a date-time: a null octet
  0, a tagged date-time 9 12 …, or an untagged one 12 ….  `noApduStart p` says that octets 9… of `p` are
  no such date-time followed by something a frame decoder takes for a notification body.  The P1 text
  decoder refuses every octet below 0x20 other than CR and LF, hence every body (first octet 1 or 2);
  the other way round, printable text is refused by all six binary decoders.
-/
namespace Amshan.DecOwnBody
open Amshan.Gen Amshan.Cosem Amshan.Dec Amshan.Auto Amshan.ListSpec Amshan.CosemDT Amshan.DecOwn

/-- acceptable continuation after a null date-time: not an Aidon array the Aidon grammar can start
    on, not a structure the Kaifa OBIS grammar can start on -/
def nullBodyOk (r : List Nat) : Bool :=
  match r with
  | t :: n :: r' =>
    if t = 1 then n != 0 && r'.head? != some 2
    else if t = 2 then n != 0 && r'.head? != some 9
    else true
  | _ => true

/-- twelve date-time octets that `datetime()` refuses whatever the rest: too few of them, or a month
    octet outside 1..12 -/
def badDate (r : List Nat) : Bool := decide (r.length < 12) || r.getD 2 0 == 0 || decide (13 ≤ r.getD 2 0)

/-- octets 9… of the payload are not an APDU date-time followed by the start of a notification body:
    * fewer than nine octets; or
    * the ninth octet is none of 0 (null date-time), 9 (tagged), 12 (untagged); or
    * 9 not followed by the length 12, or 9 12 / 12 followed by fewer than twelve octets or by a month
      octet outside 1..12; or
    * 0 followed by something that is neither array(1) nor structure(2), or by array/structure
      with a non-zero count whose first element does not start with 2 (Aidon) / 9 (Kaifa OBIS). -/
def noApduStart (p : List Nat) : Bool :=
  match p.drop 8 with
  | [] => true
  | b :: r =>
    if b = 0 then nullBodyOk r
    else if b = 9 then (match r with | l :: r' => if l = 12 then badDate r' else true | [] => true)
    else if b = 12 then badDate r
    else true

theorem noApduStart_short (p : List Nat) (h : p.length ≤ 8) : noApduStart p = true := by
  unfold noApduStart
  rw [List.drop_eq_nil_of_le h]

theorem dateTime_ok_not_bad {x : List Nat} {d : DT} {r : List Nat} (e : dateTime x = .ok d r) :
    ∃ t, x = 12 :: t ∧ badDate t = false := by
  have hl := dateTime_uses e
  obtain ⟨yh, yl, mo, t, rfl, h1, h12⟩ := dateTime_ok_inv e
  refine ⟨_, rfl, ?_⟩
  simp only [List.length_cons] at hl
  simp only [badDate, List.length_cons, List.getD_cons_succ, List.getD_cons_zero, Bool.or_eq_false_iff,
    decide_eq_false_iff_not, beq_eq_false_iff_ne]
  omega

theorem clockRes_ok {p : List Nat} (h : noApduStart p = true) {c : ApduDT} {r : List Nat}
    (e : clockRes (p.drop 8) = .ok c r) : (∃ b, c = .byte b) ∧ nullBodyOk r = true := by
  unfold noApduStart at h
  generalize p.drop 8 = q at h e
  rcases q with _ | ⟨b, q⟩
  · rw [clockRes, dateTime_nil] at e
    cases e
  · simp only [clockRes, tNull_eq, tOctet_eq] at h e
    split at e
    · rename_i hb
      rw [if_pos hb] at h
      cases e
      exact ⟨⟨_, rfl⟩, h⟩
    · rename_i h0
      rw [if_neg h0] at h
      exfalso
      split at e
      · rename_i h9
        subst h9
        rw [if_pos rfl] at h
        obtain ⟨d, r1, hd, _⟩ := bind_eq_ok e
        rw [dateTimeField, tOctet_eq, constByte_cons, bind_ok] at hd
        obtain ⟨t, rfl, ht⟩ := dateTime_ok_not_bad hd
        simp only [if_true, ht] at h
        cases h
      · rename_i h9
        obtain ⟨d, r1, hd, _⟩ := bind_eq_ok e
        obtain ⟨t, hx, ht⟩ := dateTime_ok_not_bad hd
        cases hx
        rw [if_neg h9, if_pos rfl, ht] at h
        cases h

theorem aidon_body_null (r : List Nat) (h : nullBodyOk r = true) : Aidon.notificationBody r = .soft := by
  by_cases h1 : r.head? = some 1
  · match r, h1, h with
    | [_], h1, _ => cases h1; rfl
    | _ :: n :: r', h1, h =>
      cases h1
      simp [nullBodyOk] at h
      exact aidon_body_soft n h.1 r' h.2
  · exact AidonRT.notificationBody_wants r h1

theorem kaifa_obisBody_null (r : List Nat) (h : nullBodyOk r = true) : Kaifa.obisBody r = .soft := by
  by_cases h2 : r.head? = some 2
  · match r, h2, h with
    | [_], h2, _ => cases h2; rfl
    | _ :: n :: r', h2, h =>
      cases h2
      simp [nullBodyOk] at h
      exact kaifa_obisBody_soft n h.1 r' h.2
  · exact KaifaRT.obisBody_wants r h2

theorem aidon_frame_rej (p : List Nat) (h : noApduStart p = true) : Rej (Aidon.decodeFrame p) := by
  unfold Aidon.decodeFrame
  rw [llc_eq]
  cases hc : clockRes (p.drop 8) with
  | ok c r =>
    rw [bind_ok, aidon_body_null r (clockRes_ok h hc).2]
    exact rej_construct
  | soft => exact rej_construct
  | explicit => exact rej_construct
  | py e => exact rej_exc e

theorem kaifa_valueBody_values (s : List Nat) (b : Kaifa.Body) (r : List Nat)
    (h : Kaifa.valueBody s = .ok b r) : ∃ vs, b = .values vs := by
  obtain ⟨_, _, _, h2⟩ := bind_eq_ok h
  obtain ⟨_, _, _, h3⟩ := bind_eq_ok h2
  obtain ⟨vs, _, _, h4⟩ := bind_eq_ok h3
  cases h4
  exact ⟨vs, rfl⟩

theorem normValues_byte (b : Nat) (vs : List FieldVal) :
    Kaifa.normValues (some (.byte b)) vs = .error .attributeError := rfl

theorem kaifa_frame_rej (p : List Nat) (h : noApduStart p = true) : Rej (Kaifa.decodeFrame p) := by
  unfold Kaifa.decodeFrame Kaifa.llcPdu Kaifa.select
  rw [llc_eq, llc_eq]
  cases hc : clockRes (p.drop 8) with
  | ok c r =>
    obtain ⟨⟨b, rfl⟩, hr⟩ := clockRes_ok h hc
    simp only [bind_ok, kaifa_obisBody_null r hr]
    cases hv : Kaifa.valueBody r with
    | ok b r2 =>
      obtain ⟨vs, rfl⟩ := kaifa_valueBody_values r b r2 hv
      exact rej_exc _
    | soft => exact rej_construct
    | explicit => exact rej_construct
    | py e => exact rej_construct
  | soft => exact rej_construct
  | explicit => exact rej_construct
  | py e => exact rej_construct

theorem kamstrup_frame_rej (p : List Nat) (h : noApduStart p = true) : Rej (Kamstrup.decodeFrame p) := by
  unfold Kamstrup.decodeFrame
  rw [llc_eq]
  cases hc : clockRes (p.drop 8) with
  | ok c r =>
    obtain ⟨⟨b, rfl⟩, _⟩ := clockRes_ok h hc
    simp only [bind_ok]
    cases Kamstrup.notificationBody r with
    | ok items r2 =>
      simp only [bind_ok]
      cases Kamstrup.normalize items with
      | ok d => exact rej_exc _
      | error e => exact rej_exc e
    | soft => exact rej_construct
    | explicit => exact rej_construct
    | py e => exact rej_exc e
  | soft => exact rej_construct
  | explicit => exact rej_construct
  | py e => exact rej_exc e

open Amshan.Py Amshan.P1Parse in
/-- an octet ≥ 0x80 (UnicodeDecodeError / "Readout must be ascii"), or no '(' at all, or no ')' at all
    (no data set can be parsed: "Content contains no readout data" or a missing-')' ValueError) -/
def p1Safe (p : List Nat) : Bool := p.any (fun b => decide (128 ≤ b)) || !p.contains 40 || !p.contains 41

section P1
open Amshan.Py Amshan.P1Parse

theorem p1_reject (p : List Nat) (h : p1Safe p = true) : ∃ e, decodeContent p = .error e := by
  unfold decodeContent
  split
  · exact ⟨_, rfl⟩
  unfold decodeParsedContent
  cases hp : parseContent p with
  | error e => exact ⟨e, rfl⟩
  | ok r =>
    obtain ⟨items, n⟩ := r
    have h3 : (∃ b ∈ p, 128 ≤ b) ∨ 40 ∉ p ∨ 41 ∉ p := by simpa [p1Safe, or_assoc] using h
    have hnp : 40 ∉ p ∨ 41 ∉ p := h3.resolve_left fun ⟨b, hb, hb128⟩ => by
      -- with an octet ≥ 0x80 the parser has raised
      have ha : isAscii p = false := List.all_eq_false.2 ⟨b, hb, by simp only [decide_eq_true_eq]; omega⟩
      rw [parseContent, ha] at hp
      cases hp
    obtain rfl : items = [] := (P1ParseRT.parseContent_no_paren hnp).ok hp
    exact ⟨_, rfl⟩

/-- the guard of `decode_p1_readout_content`: an octet below 0x20 other than CR and LF, anywhere in
    the payload, and the P1 decoder raises - whatever the parser would have made of the text -/
theorem p1_reject_control (p : List Nat) (h : ∃ c ∈ p, c < 32 ∧ c ≠ 13 ∧ c ≠ 10) :
    ∃ e, decodeContent p = .error e :=
  ⟨_, P1ParseRT.decodeContent_control p h⟩

theorem p1_reject_tag {p : List Nat} {t : Nat} (hp : p.head? = some t) (ht : t = 1 ∨ t = 2) :
    ∃ e, decodeContent p = .error e :=
  p1_reject_control _ ⟨t, List.mem_of_mem_head? hp, by omega, by omega, by omega⟩

end P1

/-- the first four entries of the table on a bare notification body; `hrest`: the body decoders before
    the meter's own -/
theorem frames_p1_rej (p : List Nat) (hapdu : noApduStart p = true) {t : Nat} (hp : p.head? = some t)
    (ht : t = 1 ∨ t = 2) {rest : List (Decoder (List Nat) Dict)} (hrest : AllRej p rest) :
    AllRej p ((fun p => ofOut (Aidon.decodeFrame p)) :: (fun p => ofOut (Kaifa.decodeFrame p)) ::
      (fun p => ofOut (Kamstrup.decodeFrame p)) :: P1Parse.decodeContent :: rest) :=
  ⟨aidon_frame_rej p hapdu, kaifa_frame_rej p hapdu, kamstrup_frame_rej p hapdu, p1_reject_tag hp ht, hrest⟩

theorem aidon_body_dict_head (p : List Nat) (d : Dict) (h : Aidon.decodeBody p = .dict d) :
    p.head? = some 1 := by
  refine Decidable.by_contra fun hn => ?_
  obtain ⟨e, he⟩ := aidon_body_rej p hn
  rw [h] at he
  cases he

/-- the test `noApduStart` makes on the ninth octet `b` and what follows -/
def apduAt (b : Nat) (r : List Nat) : Bool :=
  if b = 0 then nullBodyOk r
  else if b = 9 then (match r with | l :: r' => if l = 12 then badDate r' else true | [] => true)
  else if b = 12 then badDate r
  else true

theorem noApduStart_of_drop (p : List Nat) (b : Nat) (r : List Nat) (h : p.drop 8 = b :: r)
    (ha : apduAt b r = true) : noApduStart p = true := by
  unfold noApduStart
  rw [h]
  exact ha

theorem apduAt_of {b : Nat} {r : List Nat} (h0 : b = 0 → nullBodyOk r = true)
    (h9 : b = 9 → ∀ r', r = 12 :: r' → badDate r' = true) (h12 : b = 12 → badDate r = true) :
    apduAt b r = true := by
  unfold apduAt
  split
  · exact h0 ‹_›
  · split
    · split
      · split
        · rename_i hl; subst hl; exact h9 ‹_› _ rfl
        · rfl
      · rfl
    · split
      · exact h12 ‹_›
      · rfl

theorem apduAt_of_ne {b : Nat} (r : List Nat) (h0 : b ≠ 0) (h9 : b ≠ 9) (h12 : b ≠ 12) : apduAt b r = true := by
  unfold apduAt
  rw [if_neg h0, if_neg h9, if_neg h12]

theorem badDate_printable (s r : List Nat) (hs : printable s) (hl : 3 ≤ s.length) : badDate (s ++ r) = true := by
  match s, hl with
  | c0 :: c1 :: c2 :: s', _ =>
    have h2 := hs c2 (by simp)
    have : 13 ≤ c2 := by omega
    simp [badDate, this]

theorem apduAt_tag_text (s X : List Nat) (hs : printable s) : apduAt 9 (s.length :: (s ++ X)) = true :=
  apduAt_of nofun (fun _ r' hr => by
    obtain ⟨hl, rfl⟩ := List.cons.inj hr
    exact badDate_printable s X hs (by omega)) nofun

theorem apduAt_len_text (s X : List Nat) (hs : printable s) (hX : nullBodyOk X = true) :
    apduAt s.length (s ++ X) = true := by
  refine apduAt_of (fun h0 => ?_) (fun h9 r' hr => ?_) (fun h12 => badDate_printable s X hs (by omega))
  · rw [List.eq_nil_of_length_eq_zero h0]
    exact hX
  · match s, h9 with
    | c :: s', _ =>
      have := hs c (by simp)
      cases hr
      omega

theorem nullBodyOk_tag9 (l : Nat) (r : List Nat) : nullBodyOk (9 :: l :: r) = true := by
  simp [nullBodyOk]

theorem nullBodyOk_tag6 (r : List Nat) : nullBodyOk (6 :: r) = true := by
  cases r <;> simp [nullBodyOk]

/-- the test of `noApduStart`, made on octet `k` and what follows instead of the ninth -/
def apduFrom (k : Nat) (xs : List Nat) : Bool :=
  match xs.drop k with
  | [] => true
  | b :: r => apduAt b r

theorem noApduStart_eq (p : List Nat) : noApduStart p = apduFrom 8 p := by
  unfold noApduStart apduFrom
  cases p.drop 8 <;> rfl

/-- inside a text every octet passes; beyond it, what follows the text decides -/
theorem apduFrom_text {s : List Nat} (hs : printable s) (X : List Nat) :
    ∀ k, (s.length ≤ k → apduFrom (k - s.length) X = true) → apduFrom k (s ++ X) = true := by
  induction s with
  | nil => exact fun k h => h (Nat.zero_le k)
  | cons c s ih =>
    intro k h
    cases k with
    | zero =>
      have := hs c List.mem_cons_self
      exact apduAt_of_ne _ (by omega) (by omega) (by omega)
    | succ k =>
      refine ih (fun x hx => hs x (List.mem_cons_of_mem _ hx)) k fun hk => ?_
      have := h (Nat.succ_le_succ hk)
      rwa [List.length_cons, Nat.add_sub_add_right] at this

/-- a text with its tag and length octet, followed by `X`: the tag, the length octet and the text
    pass; beyond them, `X` decides -/
theorem apduFrom_block {s : List Nat} (hs : printable s) {X : List Nat} (hX : nullBodyOk X = true) (k : Nat)
    (h : s.length + 2 ≤ k → apduFrom (k - (s.length + 2)) X = true) :
    apduFrom k (9 :: s.length :: (s ++ X)) = true :=
  match k, h with
  | 0, _ => apduAt_tag_text s X hs
  | 1, _ => apduAt_len_text s X hs hX
  | k + 2, h => apduFrom_text hs X k fun hk => by
    have := h (by omega)
    rwa [Nat.add_sub_add_right] at this

theorem noApduStart_of_text (s : List Nat) (h : ∀ c ∈ s, c ≠ 0 ∧ c ≠ 9 ∧ c ≠ 12) : noApduStart s = true := by
  cases hd : s.drop 8 with
  | nil => unfold noApduStart; rw [hd]
  | cons x r =>
    have hx := h x (List.mem_of_mem_drop (by rw [hd]; exact List.mem_cons_self))
    exact noApduStart_of_drop s x r hd (apduAt_of_ne r hx.1 hx.2.1 hx.2.2)

/-- on printable text, CR and LF only the entry at index 3 can accept (the three frame decoders see no
    APDU date-time at the ninth octet, the three body decoders no array or structure tag): whatever
    stands there decides, whatever is remembered -/
theorem step_text (prev : Option Nat) {s : List Nat} (h : ∀ c ∈ s, (32 ≤ c ∧ c ≤ 126) ∨ c = 13 ∨ c = 10)
    (d3 : Decoder (List Nat) Dict) :
    step (decoders.set 3 d3) caught prev s =
      match d3 s with
      | .ok v => .ok (some 3, some v)
      | .error _ => .ok (prev, none) := by
  have ht := noApduStart_of_text s fun c hc => by have := h c hc; omega
  have h1 : s.head? ≠ some 1 := P1L.head?_ne_of_forall fun c hc => by have := h c hc; omega
  have h2 : s.head? ≠ some 2 := P1L.head?_ne_of_forall fun c hc => by have := h c hc; omega
  rw [DecTotal.decoders_eq]
  refine (step_unique_append (pre := [_, _, _]) (post := [_, _, _]) DecTotal.caught_all d3 prev ?_ ?_).trans ?_
  · exact ⟨aidon_frame_rej s ht, kaifa_frame_rej s ht, kamstrup_frame_rej s ht, trivial⟩
  · exact ⟨aidon_body_rej s h1, kaifa_body_rej s h2, kamstrup_body_rej s h2, trivial⟩
  · -- the `match` of each statement is a constant of its own
    cases d3 s <;> rfl

theorem stepPayload_text (prev : Option Nat) {s : List Nat} (h : ∀ c ∈ s, (32 ≤ c ∧ c ≤ 126) ∨ c = 13 ∨ c = 10)
    {d : Dict} (hdec : P1Parse.decodeContent s = .ok d) : stepPayload prev s = .ok (some 3, some d) := by
  have := step_text prev h P1Parse.decodeContent
  rwa [hdec, show decoders.set 3 P1Parse.decodeContent = decoders by rw [DecTotal.decoders_eq]; rfl] at this

/-- four octets, then a text of five or more printable characters: the ninth octet is its fifth -/
theorem noApduStart_text (a b c d : Nat) (s rest : List Nat) (hs : printable s) (hl : 5 ≤ s.length) :
    noApduStart (a :: b :: c :: d :: (s ++ rest)) = true := by
  rw [noApduStart_eq]
  exact apduFrom_text hs rest 4 fun h => by omega

def aidonObis : AidonElem → List Nat
  | .text o _ => o
  | .clock o _ => o
  | .reg o _ _ _ _ => o

theorem encAidonBody_cons (e : AidonElem) (rest : List AidonElem) :
    ∃ k tail, encAidonBody (e :: rest) = [1, (e :: rest).length, 2, k, 9, 6] ++ aidonObis e ++ tail := by
  cases e with
  | text o s => exact ⟨2, _, by simp [encAidonBody, encAidonElem, encObis, aidonObis, List.append_assoc]; rfl⟩
  | clock o d => exact ⟨2, _, by simp [encAidonBody, encAidonElem, encObis, aidonObis, List.append_assoc]; rfl⟩
  | reg o ty v sc u => exact ⟨3, _, by simp [encAidonBody, encAidonElem, encObis, aidonObis, List.append_assoc]; rfl⟩

/-- Aidon: the ninth octet of a bare body is group C of the first OBIS code -/
theorem aidon_noApduStart (e : AidonElem) (rest : List AidonElem) (a b c d g f : Nat)
    (ho : aidonObis e = [a, b, c, d, g, f]) (h9 : c = 9 → d ≠ 12) (h12 : c = 12 → f = 0 ∨ 13 ≤ f)
    (h0 : c = 0 → (d ≠ 1 ∧ d ≠ 2) ∨ (g ≠ 0 ∧ f ≠ 2 ∧ f ≠ 9)) :
    noApduStart (encAidonBody (e :: rest)) = true := by
  obtain ⟨k, tail, hs⟩ := encAidonBody_cons e rest
  rw [hs, ho]
  refine noApduStart_of_drop _ c (d :: g :: f :: tail) rfl (apduAt_of ?_ ?_ ?_)
  · intro hc
    rcases h0 hc with ⟨h1, h2⟩ | ⟨hg, hf2, hf9⟩
    · simp [nullBodyOk, h1, h2]
    · simp [nullBodyOk, hg, hf2, hf9]
  · intro hc r' hr
    cases hr
    exact absurd rfl (h9 hc)
  · intro hc
    rcases h12 hc with hf | hf <;> simp [badDate, hf]

/-- Kaifa OBIS-tagged list: the ninth octet is group E of the first OBIS code -/
theorem kaifa_obis_noApduStart (a b c d g f : Nat) (v : KVal) (rest : List (List Nat × KVal))
    (h12 : g ≠ 12) (h9 : g = 9 → f ≠ 12) (h0 : g = 0 → f ≠ 1 ∧ f ≠ 2) :
    noApduStart (encKaifaObis (([a, b, c, d, g, f], v) :: rest)) = true := by
  refine noApduStart_of_drop _ g (f :: (encKVal v ++ rest.flatMap (fun p => encObis p.1 ++ encKVal p.2)))
    (by simp [encKaifaObis, encObis]) (apduAt_of ?_ ?_ (fun hg => absurd hg h12))
  · intro hg
    obtain ⟨h1, h2⟩ := h0 hg
    cases v <;> simp [nullBodyOk, encKVal, h1, h2]
  · intro hg r' hr
    cases hr
    exact absurd rfl (h9 hg)

/-- Kaifa positional list: the ninth octet is the fifth character of the list-version text -/
theorem kaifa_values_noApduStart (s : List Nat) (rest : List KVal) (hs : printable s) (hl : 5 ≤ s.length) :
    noApduStart (encKaifaValues (.text s :: rest)) = true := by
  have := noApduStart_text 2 (KVal.text s :: rest).length 9 s.length s (rest.flatMap encKVal) hs hl
  simpa [encKaifaValues, encKVal] using this

/-- Kamstrup: the ninth octet is the fifth character of the list-version string -/
theorem kamstrup_noApduStart (l : KamList) (hs : printable l.version) (hl : 5 ≤ l.version.length) :
    noApduStart (encKamList l) = true := by
  have := noApduStart_text 2 l.lenOctet 10 l.version.length l.version (List.replicate l.versionPad 0 ++
    l.elems.flatMap (fun e => encObis e.obis ++ encKamVal e.value ++ List.replicate e.pad 0)) hs hl
  simpa [encKamList] using this

/-- three texts and a register: wherever the ninth octet falls, it is no APDU date-time start -/
theorem text3_noApduStart (n : Nat) (s0 s1 s2 tail : List Nat) (h0 : printable s0) (h1 : printable s1)
    (h2 : printable s2) :
    noApduStart ([2, n, 9, s0.length] ++ s0 ++ ([9, s1.length] ++ s1 ++ ([9, s2.length] ++ s2 ++ 6 :: tail))) = true := by
  rw [noApduStart_eq]
  refine apduFrom_block h0 (nullBodyOk_tag9 _ _) 6 fun _ => apduFrom_block h1 (nullBodyOk_tag9 _ _) _ fun _ =>
    apduFrom_block h2 (nullBodyOk_tag6 tail) _ fun _ => ?_
  rw [show 6 - (s0.length + 2) - (s1.length + 2) - (s2.length + 2) = 0 by omega]
  rfl

/-- a documented list is one register (too short to have a ninth octet) or starts with three texts and
    a register -/
theorem kaifa_values_wf_noApduStart (vs : List KVal) (h : KaifaValuesWF vs) :
    noApduStart (encKaifaValues vs) = true := by
  rcases KaifaRT.values_head4 h with ⟨v, rfl⟩ | ⟨s0, s1, s2, v, rest, rfl, _, h0, h1, h2⟩
  · exact noApduStart_short _ (by simp [encKaifaValues, encKVal, be32])
  · have he : encKaifaValues (.text s0 :: .text s1 :: .text s2 :: .u32 v :: rest) =
        [2, (KVal.text s0 :: .text s1 :: .text s2 :: .u32 v :: rest).length, 9, s0.length] ++ s0 ++
          ([9, s1.length] ++ s1 ++ ([9, s2.length] ++ s2 ++ 6 :: (be32 v ++ rest.flatMap encKVal))) := by
      simp [encKaifaValues, encKVal]
    rw [he]
    exact text3_noApduStart _ s0 s1 s2 _ h0 h1 h2

theorem kaifaValuesWF_list1 {v : Nat} (hv : v < 4294967296) : KaifaValuesWF [.u32 v] := by
  refine ⟨["active_power_import"], (by decide +kernel : kaifaLayout 1 = some ["active_power_import"]), ?_, ?_⟩
  · intro x hx
    cases List.mem_singleton.1 hx
    exact hv
  · intro i hi
    have : i = 0 := by simp only [List.length_cons, List.length_nil] at hi; omega
    subst this
    simp only [List.getElem_cons_zero, kaifaPosOk]
    decide +kernel

end Amshan.DecOwnBody
