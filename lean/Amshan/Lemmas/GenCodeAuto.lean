import Amshan.Lemmas.GenCodeLoop
import Amshan.GeneratedCodeAuto
import Amshan.Model.AutoDecoder
/- `AutoDecoder.decode_message_payload` and `previous_success_decoder` (han/autodecoder.py) against `Auto.step` /
   `Auto.tryLoop`, `Auto.previousName` of Model/AutoDecoder.lean.

   The translated loop is `GenRt.forLoop` over `range(len(table))` with the state `__previous_success`; an iteration
   answers `ret (ok ..)` where the source returns, `ret (error e)` where an exception leaves the function (the table
   lookup, outside the `try`: IndexError; an exception of the decoder that `caught` does not catch), `next` where the
   except clause swallows the exception.  Its body is compared pointwise with `autoRefBody`, the model's `tryLoop` step
   written as a loop body; `autoRef_tryLoop` ties the reference loop to `tryLoop`. -/
set_option linter.unusedSimpArgs false
set_option linter.unusedVariables false
namespace Amshan.GenLemmas
open Amshan.GenCode Amshan.GenRt Amshan.Auto

variable {α β : Type}

def autoRefBody (decs : List (Decoder α β)) (caught : PyExc → Bool) (start : Nat) (payload : α)
    (p : Option Nat) (i : Nat) : Step (Option Nat) (Except PyExc (Option Nat × Option β)) :=
  match decs[(i + start) % decs.length]? with
  | none => .ret (.error .indexError)
  | some dec =>
    match dec payload with
    | .ok v => .ret (.ok (some ((i + start) % decs.length), some v))
    | .error e => if caught e then .next p else .ret (.error e)

theorem autoRef_tryLoop (decs : List (Decoder α β)) (caught : PyExc → Bool) (start : Nat) (payload : α)
    (p : Option Nat) (k i : Nat) :
    forLoop (List.range' i k) p (autoRefBody decs caught start payload) (fun p => Except.ok (p, none)) =
      match tryLoop decs caught start payload k i with
      | .ok (some (idx, v)) => .ok (some idx, some v)
      | .ok none => .ok (p, none)
      | .error e => .error e := by
  induction k generalizing i with
  | zero => rfl
  | succ k ih =>
    rw [List.range'_succ, forLoop_cons, tryLoop, autoRefBody]
    cases hd : decs[(i + start) % decs.length]? with
    | none => rfl
    | some dec =>
      simp only
      cases hv : dec payload with
      | ok v => rfl
      | error e =>
        simp only
        cases hc : caught e with
        | false => simp
        | true => simpa using ih (i + 1)

theorem autoDecodeMessagePayload_eq (decs : List (Decoder α β)) (caught : PyExc → Bool) (prev : Option Nat) (payload : α) :
    autoDecodeMessagePayload decs caught prev payload = Auto.step decs caught prev payload := by
  unfold autoDecodeMessagePayload Auto.step
  try simp only [Nat.add_sub_cancel, Nat.add_sub_cancel_left]      -- `range(start, start + n)` has n items
  rw [forLoop_range'_shift, forLoop_congr (g := autoRefBody decs caught (prev.getD 0) payload)]
  · rw [autoRef_tryLoop]
    cases prev <;> simp only [Option.getD_none, Option.getD_some] <;> split <;> simp_all
  · intro s i
    unfold autoRefBody
    cases prev <;> simp [Nat.add_comm] <;> grind

/-- the rotation never looks up an index outside the table: `.error .indexError` can only come from a decoder -/
theorem tryLoop_ne_indexError (decs : List (Decoder α β)) (caught : PyExc → Bool) (start : Nat) (payload : α)
    (hc : ∀ d ∈ decs, d payload ≠ .error .indexError) (k i : Nat) (hk : k ≤ decs.length) :
    tryLoop decs caught start payload k i ≠ .error .indexError := by
  induction k generalizing i with
  | zero => simp [tryLoop]
  | succ k ih =>
    have hlt : (i + start) % decs.length < decs.length := Nat.mod_lt _ (by omega)
    have hmem := hc _ (List.getElem_mem hlt)
    have := ih (i + 1) (by omega)
    rw [tryLoop, List.getElem?_eq_getElem hlt]
    grind

theorem step_ne_indexError (decs : List (Decoder α β)) (caught : PyExc → Bool) (prev : Option Nat) (payload : α)
    (hc : ∀ d ∈ decs, d payload ≠ .error .indexError) : Auto.step decs caught prev payload ≠ .error .indexError := by
  have h := fun start => tryLoop_ne_indexError decs caught start payload hc decs.length 0 (Nat.le_refl _)
  unfold Auto.step
  cases prev <;> grind

/-- `previous_success_decoder`: the name at the remembered index; Python raises IndexError for an index outside the
    table (the model answers none there: `in range` is what `decode_message_payload` guarantees, `C12`) -/
theorem autoPreviousSuccessDecoder_eq (names : List String) (prev : Option Nat) (h : ∀ i, prev = some i → i < names.length) :
    autoPreviousSuccessDecoder names prev = .ok (previousName names prev) := by
  unfold autoPreviousSuccessDecoder previousName
  cases prev with
  | none => simp
  | some i =>
    have hi := h i rfl
    simp [List.getElem?_eq_getElem hi]

end Amshan.GenLemmas
